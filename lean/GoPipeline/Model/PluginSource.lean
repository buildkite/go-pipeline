/-
  C17 — mirror of `(*Plugin).FullSource` (plugin.go) with a model of the parts of
  `net/url.Parse` it depends on. (Until fix 3ced888 the code cleaned the result with `path.Join`;
  `cleanRel`/`pathJoin` below model that and are kept for the record of finding F17.)

  `fullSource` returns `none` for inputs on which `url.Parse` takes paths this model does not
  describe (percent escapes, `?` queries): those are outside the property's documented forms.
  Strings are `List Char`.
-/
namespace GoPipeline.PluginSrc

abbrev Str := List Char

def splitOn (sep : Char) : Str → List Str
  | [] => [[]]
  | c :: r =>
    if c == sep then [] :: splitOn sep r
    else match splitOn sep r with
      | [] => [[c]]                 -- unreachable: splitOn never returns []
      | h :: t => (c :: h) :: t

def joinWith (sep : Char) : List Str → Str
  | [] => []
  | [x] => x
  | x :: y :: r => x ++ sep :: joinWith sep (y :: r)

/-- `strings.Cut(s, "#")`: text before the first `#`, and the text after it (`""` if none). -/
def cutHash : Str → Str × Str
  | [] => ([], [])
  | c :: r => if c == '#' then ([], r) else let (a, b) := cutHash r; (c :: a, b)

def isAlpha (c : Char) : Bool := ('a' ≤ c && c ≤ 'z') || ('A' ≤ c && c ≤ 'Z')
def isSchemeTail (c : Char) : Bool := ('0' ≤ c && c ≤ '9') || c == '+' || c == '-' || c == '.'

/-- Result of `net/url.getScheme`. -/
inductive Scheme where
  | none_                -- no scheme: the whole input is the rest
  | some_ (scheme rest : Str)
  | err                  -- "missing protocol scheme" (`:` first)
  deriving Repr, DecidableEq

/-- The loop of `getScheme`; `first` says that the character looked at is the first one (the two special
    cases apply to it only), `acc` is the scheme read so far. -/
def getSchemeFrom (first : Bool) (acc : Str) : Str → Scheme
  | [] => .none_
  | c :: r =>
    if isAlpha c then getSchemeFrom false (acc ++ [c]) r
    else if isSchemeTail c then (if first then .none_ else getSchemeFrom false (acc ++ [c]) r)
    else if c == ':' then (if first then .err else .some_ acc r)
    else .none_

def getScheme (s : Str) : Scheme := getSchemeFrom true [] s

/-- `stringContainsCTLByte` -/
def hasCTL (s : Str) : Bool := s.any (fun c => c.toNat < 0x20 || c.toNat == 0x7f)

/-- `path.Clean` for a relative path given as `/`-separated components (result components;
    empty result stands for `"."`). -/
def cleanRel : List Str → List Str → List Str
  | stack, [] => stack.reverse
  | stack, c :: r =>
    if c == [] || c == ['.'] then cleanRel stack r
    else if c == ['.', '.'] then
      match stack with
      | top :: rest => if top == ['.', '.'] then cleanRel (c :: stack) r else cleanRel rest r
      | [] => cleanRel [c] r
    else cleanRel (c :: stack) r

/-- `path.Join(elems...)` for elements none of which starts with `/` after joining
    (the first element here is always `github.com`). -/
def pathJoin (elems : List Str) : Str :=
  let ne := elems.filter (· != [])
  if ne == [] then []
  else
    match cleanRel [] (splitOn '/' (joinWith '/' ne)) with
    | [] => ['.']
    | comps => joinWith '/' comps

def suffix : Str := "-buildkite-plugin".toList
def githubCom : Str := "github.com".toList
def bkPlugins : Str := "buildkite-plugins".toList

/-- `lastSegment` closure of `FullSource`. -/
def lastSegment (n f : Str) : Str :=
  let n := n ++ suffix
  if f == [] then n else n ++ '#' :: f

/-- `(*Plugin).FullSource`. `none` = outside the modelled part of `url.Parse`. -/
def fullSource (s : Str) : Option Str :=
  match s with
  | [] => some []
  | c0 :: _ =>
    if c0 == '/' || c0 == '.' || c0 == '\\' then some s
    else if s.contains '%' || s.contains '?' then none
    else
      let (u, frag) := cutHash s
      if hasCTL u then some s                      -- url.Parse error ⇒ Source
      else if u == ['*'] then some (githubCom ++ '/' :: bkPlugins ++ '/' :: lastSegment u frag)
      else
        match getScheme u with
        | .err => some s                            -- url.Parse error ⇒ Source
        | .some_ _ _ => some s                      -- Scheme or Opaque set (or a parse error) ⇒ Source
        | .none_ =>
          -- rest = u, which does not start with `/`; first path segment must not contain `:`
          let seg0 := (splitOn '/' u).headD []
          if seg0.contains ':' then some s          -- url.Parse error ⇒ Source
          else
            -- Path = u, Fragment = frag
            match splitOn '/' u with
            | [p0] => some (githubCom ++ '/' :: bkPlugins ++ '/' :: lastSegment p0 frag)
            | [p0, p1] => some (githubCom ++ '/' :: p0 ++ '/' :: lastSegment p1 frag)
            | _ => some s

/-- `strings.Cut(rest, "?")` (and the `ForceQuery` case): the text before the first `?`. -/
def cutQuery : Str → Str
  | [] => []
  | c :: r => if c == '?' then [] else c :: cutQuery r

/-- `FullSource` on sources with a `?` as well (these are outside the documented forms of property C17):
    `url.Parse` cuts the query off the path after looking for a scheme. It agrees with `fullSource` wherever
    that is defined, and `Marshal.fullSource` falls back on it. Still `none` when a `%` escape is involved. -/
def fullSourceQ (s : Str) : Option Str :=
  match s with
  | [] => some []
  | c0 :: _ =>
    if c0 == '/' || c0 == '.' || c0 == '\\' then some s
    else if s.contains '%' then none
    else
      let (u, frag) := cutHash s
      if hasCTL u then some s
      else if u == ['*'] then some (githubCom ++ '/' :: bkPlugins ++ '/' :: lastSegment u frag)
      else
        match getScheme u with
        | .err => some s
        | .some_ _ _ => some s
        | .none_ =>
          let rest := cutQuery u
          let seg0 := (splitOn '/' rest).headD []
          if seg0.contains ':' then some s
          else
            match splitOn '/' rest with
            | [p0] => some (githubCom ++ '/' :: bkPlugins ++ '/' :: lastSegment p0 frag)
            | [p0, p1] => some (githubCom ++ '/' :: p0 ++ '/' :: lastSegment p1 frag)
            | _ => some s

/-! ## Documented domain -/

def isNameChar (c : Char) : Bool :=
  ('a' ≤ c && c ≤ 'z') || ('A' ≤ c && c ≤ 'Z') || ('0' ≤ c && c ≤ '9') || c == '.' || c == '_' || c == '-'

/-- A name / org: non-empty, over `[A-Za-z0-9._-]`, not starting with `.`. -/
def NameOK (n : Str) : Prop := n ≠ [] ∧ (∀ c ∈ n, isNameChar c = true) ∧ n.head? ≠ some '.'

/-- A git-legal ref over letters, digits, `.`, `_`, `-` and `/` whose `/`-separated components are non-empty and
    neither `.` nor `..` (the property excludes the rest). -/
def RefOK (r : Str) : Prop :=
  r ≠ [] ∧ (∀ c ∈ r, isNameChar c = true ∨ c = '/') ∧
  ∀ comp ∈ splitOn '/' r, comp ≠ [] ∧ comp ≠ ['.'] ∧ comp ≠ ['.', '.']

/-- Optional `#ref`. -/
def withRef (base : Str) (ref : Option Str) : Str :=
  match ref with
  | none => base
  | some r => base ++ '#' :: r

def RefOptOK : Option Str → Prop
  | none => True
  | some r => RefOK r

/-- Characters of the documented forms (no `%`, `?`, controls). -/
def isDomChar (c : Char) : Bool :=
  isNameChar c || c == '/' || c == '#' || c == ':' || c == '@' || c == '\\'

end GoPipeline.PluginSrc
