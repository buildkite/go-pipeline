/-
  C07 / C08 — mirror of `DecodeYAML`/`decodeYAML`, `rangeYAMLMap`/`rangeYAMLMapImpl` and the alias/kind
  part of `canonicalMapKey` (ordered/yaml.go) over a *graph* of yaml nodes (cycles representable).

  The model starts at the `*yaml.Node` graph that yaml.v3 produced; scanner, parser, tag resolution
  and scalar decoding are yaml.v3's (inputs here):
    * `decoded`  — what `n.Decode(&v)` yields for a scalar node (`none` = Decode fails);
    * `keyStr`   — what `canonicalMapKey` yields for a scalar node (`none` = error: null key, undecodable).
-/
import GoPipeline.Model.Val
import GoPipeline.Model.OMap
namespace GoPipeline.Yaml

inductive Kind where
  | scalar | sequence | mapping | alias | document | other
  deriving DecidableEq, Repr

structure NodeRec where
  kind : Kind
  isMerge : Bool                -- `k.Tag == "!!merge"`
  decoded : Option Val := none
  keyStr : Option String := none
  content : List Nat := []
  aliasTo : Option Nat := none  -- `n.Alias` (nil possible on hand-built graphs)

instance : Inhabited NodeRec := ⟨{ kind := .other, isMerge := false }⟩

abbrev Store := List NodeRec

inductive Err where
  | recursion          -- "infinite recursion"
  | other              -- wrong kind, odd mapping, bad key, Decode failure, multi-content document
  | fuel               -- model artefact: never returned by `decodeYAML` (fuel `bound s`) on an `AliasFlat` store (`C07_decode_total`)
  deriving DecidableEq, Repr

/-- `canonicalMapKey`: follow aliases, scalars give `keyStr`, other kinds are an error.
    Fuel only guards hand-built alias→alias chains. -/
def canonicalKey (s : Store) : Nat → Nat → Except Err String
  | 0, _ => .error .fuel
  | f + 1, i =>
    match s[i]? with
    | none => .error .other
    | some n =>
      match n.kind with
      | .alias => match n.aliasTo with
        | some t => canonicalKey s f t
        | none => .error .other
      | .scalar => match n.keyStr with
        | some k => .ok k
        | none => .error .other
      | _ => .error .other

/-- Split `Content` into (key node, value node) pairs; `none` if the length is odd. -/
def pairsOf : List Nat → Option (List (Nat × Nat))
  | [] => some []
  | [_] => none
  | k :: v :: r => (pairsOf r).map ((k, v) :: ·)

/-- State threaded through `rangeYAMLMapImpl`: the `merged` set and the yielded (key, value node) pairs. -/
structure RangeSt where
  merged : List Nat
  out : List (String × Nat)

/-- A callback chain: each enclosing mapping level contributes a `keys` set (as `skipKeys` closure).
    Yielding a key through the chain: every level must not know it; every level then records it. -/
def yieldChain : List (List String) → String → List (List String) × Bool
  | [], _ => ([], true)                       -- reached the collector
  | ks :: outer, k =>
    if ks.contains k then (ks :: outer, false)  -- `if keys[k] { return nil }`
    else
      let (outer', ok) := yieldChain outer k    -- `keys[k] = true; return f(k, v)`
      ((k :: ks) :: outer', ok)

mutual
  /-- `rangeYAMLMapImpl(merged, n, f)` where `f` is the chain `levels` ending in the top-level collector.
      Returns the updated `levels` (the `keys` maps are shared by reference in Go). -/
  def rangeImpl (s : Store) : Nat → List (List String) → RangeSt → Option Nat →
      Except Err (List (List String) × RangeSt)
    | 0, _, _, _ => .error .fuel
    | _ + 1, levels, st, none => .ok (levels, st)           -- n == nil
    | f + 1, levels, st, some i =>
      if st.merged.contains i then .ok (levels, st)
      else
        let st := { st with merged := i :: st.merged }
        match s[i]? with
        | none => .error .other
        | some n =>
          match n.kind with
          | .mapping =>
            match pairsOf n.content with
            | none => .error .other
            | some ps =>
              -- pass 1: keys at this level (merge keys ignored)
              match explicitKeys s f ps with
              | .error e => .error e
              | .ok ks =>
                -- pass 2: this level's `keys` set is a new innermost level of the chain
                match rangePairs s f ks levels st ps with
                | .error e => .error e
                | .ok (_, outer', st') => .ok (outer', st')
          | .sequence => rangeSeq s f levels st n.content
          | .alias => rangeImpl s f levels st n.aliasTo
          | _ => .error .other

  /-- Pass 2 over the pairs of a mapping; `cur` is this mapping's `keys`, `outer` the enclosing chain. -/
  def rangePairs (s : Store) : Nat → List String → List (List String) → RangeSt → List (Nat × Nat) →
      Except Err (List String × List (List String) × RangeSt)
    | 0, _, _, _, _ => .error .fuel
    | _ + 1, cur, outer, st, [] => .ok (cur, outer, st)
    | f + 1, cur, outer, st, (k, v) :: rest =>
      match s[k]? with
      | none => .error .other
      | some kn =>
        if kn.isMerge then
          -- recurse into the merge value; its yields go through `skipKeys` of this level and all outer ones
          match rangeImpl s f (cur :: outer) st (some v) with
          | .error e => .error e
          | .ok ([], st') => rangePairs s f cur outer st' rest          -- unreachable: the chain keeps its length
          | .ok (cur' :: outer', st') => rangePairs s f cur' outer' st' rest
        else
          match canonicalKey s (f + 1) k with
          | .error e => .error e
          | .ok ck =>
            -- an explicit pair is yielded to the *enclosing* callback: through the outer levels only
            match yieldChain outer ck with
            | (outer', false) => rangePairs s f cur outer' st rest
            | (outer', true) => rangePairs s f cur outer' { st with out := st.out ++ [(ck, v)] } rest

  def rangeSeq (s : Store) : Nat → List (List String) → RangeSt → List Nat →
      Except Err (List (List String) × RangeSt)
    | 0, _, _, _ => .error .fuel
    | _ + 1, levels, st, [] => .ok (levels, st)
    | f + 1, levels, st, e :: rest =>
      match rangeImpl s f levels st (some e) with
      | .error err => .error err
      | .ok (levels', st') => rangeSeq s f levels' st' rest

  /-- Pass 1: canonical keys of the non-merge pairs. -/
  def explicitKeys (s : Store) : Nat → List (Nat × Nat) → Except Err (List String)
    | 0, _ => .error .fuel
    | _ + 1, [] => .ok []
    | f + 1, (k, _) :: rest =>
      match s[k]? with
      | none => .error .other
      | some kn =>
        if kn.isMerge then explicitKeys s f rest
        else
          match canonicalKey s (f + 1) k with
          | .error e => .error e
          | .ok ck => (explicitKeys s f rest).map (ck :: ·)
end

/-- Enough fuel for any call chain: nesting is bounded by the number of nodes (the `seen` / `merged`
    sets grow along a chain) and each level walks one list, consuming one unit of fuel per element.
    That list is a content list (≤ `maxContent`) or, in `decodePairs`, the pairs yielded by one
    `rangeMap`; with merges the latter is NOT bounded by one content list, only by
    `|store| · maxContent` (every mapping node is ranged at most once per `rangeMap`), hence `maxList`.
    (With the former bound `(|store|+2)·(maxContent+3)` deeply nested mappings that each merge several
    wide mappings ran out of fuel; see `Lemmas/Yaml.lean`, `oldBound_counterexample`.) -/
def maxContent (s : Store) : Nat := s.foldl (fun m n => max m n.content.length) 0
def maxList (s : Store) : Nat := (s.length + 1) * maxContent s
def bound (s : Store) : Nat := (s.length + 2) * (maxList s + 3)

/-- `rangeYAMLMap(n, f)`: the (canonical key, value node) pairs in the order `f` receives them. -/
def rangeMap (s : Store) (fuel : Nat) (i : Nat) : Except Err (List (String × Nat)) :=
  (rangeImpl s fuel [] { merged := [], out := [] } (some i)).map (·.2.out)

mutual
  /-- `decodeYAML(seen, n)`. -/
  def decode (s : Store) : Nat → List Nat → Option Nat → Except Err Val
    | 0, _, _ => .error .fuel
    | _ + 1, _, none => .ok .null
    | f + 1, seen, some i =>
      if seen.contains i then .error .recursion
      else
        let seen' := i :: seen           -- un-marked on return: the callee gets `seen'`, the caller keeps `seen`
        match s[i]? with
        | none => .error .other
        | some n =>
          match n.kind with
          | .scalar => match n.decoded with
            | some v => .ok v
            | none => .error .other
          | .sequence => (decodeList s f seen' n.content).map .seq
          | .mapping =>
            match rangeMap s (bound s) i with
            | .error e => .error e
            | .ok ps => (decodePairs s f seen' ps []).map .omap
          | .alias => decode s f seen' n.aliasTo
          | .document =>
            match n.content with
            | [] => .ok .null
            | [c] => decode s f seen' (some c)
            | _ => .error .other
          | .other => .error .other

  def decodeList (s : Store) : Nat → List Nat → List Nat → Except Err (List Val)
    | 0, _, _ => .error .fuel
    | _ + 1, _, [] => .ok []
    | f + 1, seen, c :: rest =>
      match decode s f seen (some c) with
      | .error e => .error e
      | .ok v => (decodeList s f seen rest).map (v :: ·)

  /-- `m.Set(key, v)` for each yielded pair (a repeated key updates in place). -/
  def decodePairs (s : Store) : Nat → List Nat → List (String × Nat) → List (String × Val) → Except Err (List (String × Val))
    | 0, _, _, _ => .error .fuel
    | _ + 1, _, [], acc => .ok acc
    | f + 1, seen, (k, v) :: rest, acc =>
      match decode s f seen (some v) with
      | .error e => .error e
      | .ok x => decodePairs s f seen rest (OMap.aset acc k x)
end

/-- `DecodeYAML(n)`. -/
def decodeYAML (s : Store) (root : Nat) : Except Err Val := decode s (bound s) [] (some root)

/-! ## Specification: the YAML merge rules -/

mutual
  /-- The mapping nodes a merge value denotes, in order: an alias denotes its target, a sequence the
      concatenation of its elements, a mapping itself. -/
  def specSources (s : Store) : Nat → Option Nat → Except Err (List Nat)
    | 0, _ => .error .fuel
    | _ + 1, none => .ok []
    | f + 1, some i =>
      match s[i]? with
      | none => .error .other
      | some n =>
        match n.kind with
        | .mapping => .ok [i]
        | .alias => specSources s f n.aliasTo
        | .sequence => specSourcesList s f n.content
        | _ => .error .other
  def specSourcesList (s : Store) : Nat → List Nat → Except Err (List Nat)
    | 0, _ => .error .fuel
    | _ + 1, [] => .ok []
    | f + 1, e :: rest =>
      match specSources s f (some e) with
      | .error err => .error err
      | .ok a => (specSourcesList s f rest).map (a ++ ·)
end

/-- Append the pairs of `src` whose keys are not yet present ("unless the key already exists"). -/
def mergeInto (have_ : List String) (out : List (String × Nat)) : List (String × Nat) → List String × List (String × Nat)
  | [] => (have_, out)
  | (k, v) :: r => if have_.contains k then mergeInto have_ out r else mergeInto (k :: have_) (out ++ [(k, v)]) r

mutual
  /-- Content of a mapping per https://yaml.org/type/merge.html, order-preserving: explicit pairs stand
      where they are written; a `<<` pair contributes, where it stands, the content of each source
      mapping in order, earlier sources winning over later ones and explicit keys over all merged ones. -/
  def specContent (s : Store) : Nat → Nat → Except Err (List (String × Nat))
    | 0, _ => .error .fuel
    | f + 1, i =>
      match s[i]? with
      | none => .error .other
      | some n =>
        match n.kind, pairsOf n.content with
        | .mapping, some ps =>
          match explicitKeys s (f + 1) ps with
          | .error e => .error e
          | .ok ks => (specPairs s f ks [] ps).map (·.2)
        | _, _ => .error .other
  def specPairs (s : Store) : Nat → List String → List (String × Nat) → List (Nat × Nat) →
      Except Err (List String × List (String × Nat))
    | 0, _, _, _ => .error .fuel
    | _ + 1, have_, out, [] => .ok (have_, out)
    | f + 1, have_, out, (k, v) :: rest =>
      match s[k]? with
      | none => .error .other
      | some kn =>
        if kn.isMerge then
          match specSources s (f + 1) (some v) with
          | .error e => .error e
          | .ok srcs =>
            match specMergeAll s f have_ out srcs with
            | .error e => .error e
            | .ok (have', out') => specPairs s f have' out' rest
        else
          match canonicalKey s (f + 1) k with
          | .error e => .error e
          | .ok ck => specPairs s f have_ (out ++ [(ck, v)]) rest
  def specMergeAll (s : Store) : Nat → List String → List (String × Nat) → List Nat →
      Except Err (List String × List (String × Nat))
    | 0, _, _, _ => .error .fuel
    | _ + 1, have_, out, [] => .ok (have_, out)
    | f + 1, have_, out, src :: rest =>
      match specContent s f src with
      | .error e => .error e
      | .ok ps =>
        let (have', out') := mergeInto have_ out ps
        specMergeAll s f have' out' rest
end

end GoPipeline.Yaml
