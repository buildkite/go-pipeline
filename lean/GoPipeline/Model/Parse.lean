/-
  C03 / C09 / C13 — mirror of the parse path after YAML decoding: `Pipeline.UnmarshalOrdered`,
  `Steps.UnmarshalOrdered`, `unmarshalStep`, `stepFromMap`, `NewScalarStep`, and every
  `UnmarshalOrdered` of CommandStep / GroupStep / Plugins / Matrix / MatrixSetup /
  MatrixAdjustmentWith / Cache, with the struct-level key bookkeeping done by `Unm.taken` /
  `Unm.remainder` over the descriptors regenerated from the source (`Gen/Structs`) and the kind
  tables regenerated in `Gen/StepKinds`.

  Input: the `Val` that `ordered.DecodeYAML` produced. Output: the typed pipeline and the list of
  warning kinds in the order the warning tree lists them; `Except` error = hard error.
-/
import GoPipeline.Model.Pipeline
import GoPipeline.Model.Unmarshal
import GoPipeline.Model.StepKind
import GoPipeline.Gen.Structs
import GoPipeline.Gen.StepKinds
namespace GoPipeline.Parse
open GoPipeline GoPipeline.Pipe GoPipeline.Unm

inductive Warn where
  | noSteps | unknownType | inferFail | fellBack
  deriving DecidableEq, Repr

inductive Hard where
  | badScalar        -- a value that cannot become a string / bool (list, map, timestamp, uint64)
  | badShape         -- wrong container kind for a field
  | badStepEntry     -- step entry neither string nor mapping
  | typeNotString    -- `type:` present but not a string
  | topLevel         -- document neither mapping nor sequence
  | wrapped          -- a warning wrapped by fmt.Errorf inside a nested Unmarshaler (treated as an error by the caller)
  deriving DecidableEq, Repr

/-- A Go map store on the sorted-entries view. -/
def umapInsert {α : Type} (k : String) (v : α) : List (String × α) → List (String × α)
  | [] => [(k, v)]
  | (k', v') :: r =>
    if k == k' then (k, v) :: r
    else if k < k' then (k, v) :: (k', v') :: r
    else (k', v') :: umapInsert k v r

def umapOf {α : Type} (l : List (String × α)) : List (String × α) := l.foldl (fun acc p => umapInsert p.1 p.2 acc) []

def maxInt64 : Int := 9223372036854775807

/-- `fmt.Sprint` of a scalar source value. -/
def sprint : Val → Option String
  | .str s => some s
  | .int i => if i > maxInt64 then none else some (toString i)     -- uint64 source: unsupported
  | .bool b => some (if b then "true" else "false")
  | .float lit => some (String.ofList (lit.toList.takeWhile (· != '|')))
  | _ => none

/-- `Unmarshal(v, *string)` into a zero string. -/
def strOf : Val → Except Hard String
  | .null => .ok ""
  | v => match sprint v with
    | some s => .ok s
    | none => .error .badScalar

def strsElems : List Val → Except Hard (List String)
  | [] => .ok []
  | v :: r =>
    match strOf v with
    | .error e => .error e
    | .ok s => (strsElems r).map (s :: ·)

/-- `Unmarshal(v, *[]string)` into a nil slice: null ⇒ nil, scalar ⇒ one element, list ⇒ elementwise. -/
def strsOf : Val → Except Hard (Option (List String))
  | .null => .ok none
  | .seq xs => (strsElems xs).map some
  | v => match sprint v with
    | some s => .ok (some [s])
    | none => .error .badShape

/-- `s := make([]string, 0, n); Unmarshal(list, &s)`. -/
def strsOfSeq (xs : List Val) : Except Hard (List String) := strsElems xs

mutual
  /-- `ordered.ToMapRecursive`. -/
  def toMapRec : Val → Val
    | .omap kvs => .umap (umapOf (toMapRecKVs kvs))
    | .seq xs => .seq (toMapRecList xs)
    | v => v
  def toMapRecList : List Val → List Val
    | [] => []
    | x :: r => toMapRec x :: toMapRecList r
  def toMapRecKVs : List (String × Val) → List (String × Val)
    | [] => []
    | (k, v) :: r => (k, toMapRec v) :: toMapRecKVs r
end

/-- Inline remainder into `map[string]any`: untouched (nil) when empty. -/
def remMap (rest : Entries) : UMap Val := if rest.isEmpty then none else some (umapOf rest)

def fieldOf (t : List (String × String × Val)) (name : String) : Option Val :=
  (t.find? (fun x => x.1 == name)).map (·.2.2)

/-! ## Plugins -/

def pluginsOfMap (kvs : List (String × Val)) : List (Option Plugin) :=
  kvs.map fun (k, v) => some { source := k, config := toMapRec v }

def pluginsElems : List Val → Except Hard (List (Option Plugin))
  | [] => .ok []
  | .omap kvs :: r => (pluginsElems r).map (pluginsOfMap kvs ++ ·)
  | .str s :: r => (pluginsElems r).map (some { source := s, config := .null } :: ·)
  | _ :: _ => .error .badShape

/-- `(*Plugins).UnmarshalOrdered` into a nil slice: nothing appended ⇒ stays nil. -/
def parsePlugins : Val → Except Hard (Option (List (Option Plugin)))
  | .null => .ok none
  | .seq xs => (pluginsElems xs).map fun l => if l.isEmpty then none else some l
  | .omap kvs => .ok (if kvs.isEmpty then none else some (pluginsOfMap kvs))
  | _ => .error .badShape

/-! ## Step env, signature -/

def ssElems : List (String × Val) → Except Hard (List (String × String))
  | [] => .ok []
  | (k, v) :: r =>
    match strOf v with
    | .error e => .error e
    | .ok s => (ssElems r).map ((k, s) :: ·)

/-- `map[string]string` field. -/
def parseEnvMap : Val → Except Hard (UMap String)
  | .null => .ok none
  | .omap kvs => (ssElems kvs).map fun l => some (umapOf l)
  | _ => .error .badShape

/-- `*ordered.MapSS` field (pipeline env): order kept; a decoded mapping has distinct keys (C07), so
    `Set` never updates in place. -/
def parseEnvOrdered : Val → Except Hard (Option (List (String × String)))
  | .null => .ok none
  | .omap kvs => (ssElems kvs).map some
  | _ => .error .badShape

def parseSignature : Val → Except Hard (Option Signature)
  | .null => .ok none
  | .omap m =>
    let t := taken m Gen.struct_Signature
    match strOf ((fieldOf t "Algorithm").getD (.str "")), strsOf ((fieldOf t "SignedFields").getD .null), strOf ((fieldOf t "Value").getD (.str "")) with
    | .ok a, .ok f, .ok v => .ok (some { algorithm := a, signedFields := f, value := v })
    | _, _, _ => .error .badScalar
  | _ => .error .badShape

/-! ## Matrix -/

def setupElems : List (String × Val) → Except Hard (List (String × Option (List String)))
  | [] => .ok []
  | (k, v) :: r =>
    match strsOf v with
    | .error e => .error e
    | .ok s => (setupElems r).map ((k, s) :: ·)

/-- `(*MatrixSetup).UnmarshalOrdered` (called when the `setup` key is present; `null` is accepted and
    zeroes the value). -/
def parseSetup : Val → Except Hard (UMap (Option (List String)))
  | .null => .ok none
  | .seq xs => (strsOfSeq xs).map fun l => some [("", some l)]
  | .omap kvs => (setupElems kvs).map fun l => some (umapOf l)
  | _ => .error .badShape

def withScalar : Val → Option String
  | .str s => some s
  | .int i => if i > maxInt64 then none else some (toString i)
  | .bool b => some (if b then "true" else "false")
  | _ => none

def withElems : List (String × Val) → Except Hard (List (String × String))
  | [] => .ok []
  | (k, v) :: r =>
    match withScalar v with
    | none => .error .badScalar
    | some s => (withElems r).map ((k, s) :: ·)

/-- `(*MatrixAdjustmentWith).UnmarshalOrdered` (key present; `null` accepted, zeroes the value). -/
def parseWith : Val → Except Hard (UMap String)
  | .null => .ok none
  | .omap kvs => (withElems kvs).map fun l => some (umapOf l)
  | v => match withScalar v with
    | some s => .ok (some [("", s)])
    | none => .error .badShape

def parseAdjustment (m : Entries) : Except Hard Adjustment :=
  let t := taken m Gen.struct_MatrixAdjustment
  match (match fieldOf t "With" with | none => .ok none | some v => parseWith v : Except Hard (UMap String)) with
  | .error e => .error e
  | .ok w => .ok { with_ := w, skip := (fieldOf t "Skip").getD .null, rem := remMap (remainder m Gen.struct_MatrixAdjustment) }

def adjustmentsElems : List Val → Except Hard (List (Option Adjustment))
  | [] => .ok []
  | .null :: r => (adjustmentsElems r).map (none :: ·)
  | .omap m :: r =>
    match parseAdjustment m with
    | .error e => .error e
    | .ok a => (adjustmentsElems r).map (some a :: ·)
  | _ :: _ => .error .badShape

def parseAdjustments : Val → Except Hard (Option (List (Option Adjustment)))
  | .null => .ok none
  | .seq xs => (adjustmentsElems xs).map some
  | _ => .error .badShape

/-- `(*Matrix).UnmarshalOrdered` behind the `*Matrix` field. -/
def parseMatrix : Val → Except Hard (Option Matrix)
  | .null => .ok none
  | .seq xs => (strsOfSeq xs).map fun l => some { setup := some [("", some l)], adjustments := none, rem := none }
  | .omap m =>
    let t := taken m Gen.struct_Matrix
    match (match fieldOf t "Setup" with | none => .ok none | some v => parseSetup v : Except Hard (UMap (Option (List String)))) with
    | .error e => .error e
    | .ok setup =>
      match (match fieldOf t "Adjustments" with | none => .ok none | some v => parseAdjustments v : Except Hard (Option (List (Option Adjustment)))) with
      | .error e => .error e
      | .ok adjs => .ok (some { setup := setup, adjustments := adjs, rem := remMap (remainder m Gen.struct_Matrix) })
  | _ => .error .badShape

/-! ## Cache -/

def boolOf : Val → Except Hard Bool
  | .null => .ok false
  | .bool b => .ok b
  | _ => .error .badScalar

def parseCache : Val → Except Hard (Option Cache)
  | .null => .ok none
  | .bool b => .ok (some { disabled := !b, name := "", paths := none, size := "", rem := none })
  | .str s => .ok (some { disabled := false, name := "", paths := some [s], size := "", rem := none })
  | .seq xs => (strsOfSeq xs).map fun l => some { disabled := false, name := "", paths := some l, size := "", rem := none }
  | .omap m =>
    let t := taken m Gen.struct_Cache
    match boolOf ((fieldOf t "Disabled").getD (.bool false)), strOf ((fieldOf t "Name").getD (.str "")),
          strsOf ((fieldOf t "Paths").getD .null), strOf ((fieldOf t "Size").getD (.str "")) with
    | .ok d, .ok n, .ok p, .ok s => .ok (some { disabled := d, name := n, paths := p, size := s, rem := remMap (remainder m Gen.struct_Cache) })
    | _, _, _, _ => .error .badScalar
  | _ => .error .badShape

/-! ## Command step -/

def joinLines : List String → String
  | [] => ""
  | [s] => s
  | s :: r => s ++ "\n" ++ joinLines r

def optField {α : Type} (t : List (String × String × Val)) (name : String) (dflt : α) (f : Val → Except Hard α) : Except Hard α :=
  match fieldOf t name with
  | none => .ok dflt
  | some v => f v

/-- `(*CommandStep).UnmarshalOrdered`. -/
def parseCommand (m : Entries) : Except Hard CommandStep :=
  let outer := Gen.struct_CommandStep_UnmarshalOrdered_local0
  let ot := taken m outer
  match optField ot "Commands" none strsOf with
  | .error e => .error e
  | .ok cmds =>
    let rest := remainder m outer
    let t := taken rest Gen.struct_CommandStep
    match optField t "Key" "" strOf, optField t "Label" "" strOf, optField t "Command" "" strOf,
          optField t "Plugins" none parsePlugins, optField t "Env" none parseEnvMap,
          optField t "Signature" none parseSignature, optField t "Matrix" none parseMatrix,
          optField t "Cache" none parseCache with
    | .ok key, .ok label, .ok _, .ok plugins, .ok env, .ok sig, .ok matrix, .ok cache =>
      .ok { key := key, label := label, command := joinLines (cmds.getD []), plugins := plugins, env := env,
            signature := sig, matrix := matrix, cache := cache, rem := remMap (remainder rest Gen.struct_CommandStep) }
    | _, _, _, _, _, _, _, _ => .error .badScalar

/-! ## Steps -/

def selOf (m : Entries) : Except Hard StepKind.Sel :=
  let has := fun k => (m.lookup k).isSome
  match m.lookup "type" with
  | none => .ok (StepKind.select Gen.typeTable Gen.inferTable has .absent)
  | some (.str s) => .ok (StepKind.select Gen.typeTable Gen.inferTable has (.str s))
  | some _ => .error .typeNotString

mutual
  /-- `unmarshalStep`: the step and the warnings it contributes. -/
  def parseStep : Nat → Val → Except Hard (Step × List Warn)
    | 0, _ => .error .badStepEntry
    | _ + 1, .str s =>
      match StepKind.selectScalar Gen.scalarTable s with
      | .known .wait => .ok (.wait s none, [])
      | .known .input => .ok (.input s none, [])
      | _ => .ok (.unknown (.str s), [.unknownType])
    | f + 1, .omap m =>
      match selOf m with
      | .error e => .error e
      | .ok sel =>
        match sel with
        | .hardError => .error .typeNotString
        | .unknownType => .ok (.unknown (.omap m), [.unknownType])
        | .inferFail => .ok (.unknown (.omap m), [.inferFail])
        | .known .command =>
          match parseCommand m with
          | .ok c => .ok (.command c, [])
          | .error _ => .ok (.unknown (.omap m), [.fellBack])
        | .known .wait => .ok (.wait "" (some (umapOf m)), [])
        | .known .input => .ok (.input "" (some (umapOf m)), [])
        | .known .trigger => .ok (.trigger (some (umapOf m)), [])
        | .known .group =>
          match parseGroup f m with
          | .ok g => .ok (g, [])
          | .error _ => .ok (.unknown (.omap m), [.fellBack])
        | .known .unknown => .ok (.unknown (.omap m), [.unknownType])
    | _ + 1, _ => .error .badStepEntry

  /-- `(*Steps).UnmarshalOrdered` on a list. -/
  def parseSteps : Nat → List Val → Except Hard (List Step × List Warn)
    | _, [] => .ok ([], [])
    | f, v :: r =>
      match parseStep f v with
      | .error e => .error e
      | .ok (s, w) =>
        match parseSteps f r with
        | .error e => .error e
        | .ok (ss, ws) => .ok (s :: ss, w ++ ws)

  /-- `(*GroupStep).UnmarshalOrdered`: any warning from the nested steps comes back wrapped by
      `fmt.Errorf`, i.e. as an error. -/
  def parseGroup : Nat → Entries → Except Hard Step
    | f, m =>
      let t := taken m Gen.struct_GroupStep
      match optField t "Key" "" strOf with
      | .error e => .error e
      | .ok key =>
        match (match fieldOf t "Group" with
               | none => .ok none
               | some .null => .ok none
               | some v => (strOf v).map some : Except Hard (Option String)) with
        | .error e => .error e
        | .ok grp =>
          match (match fieldOf t "Steps" with
                 | none => .ok ([], [])
                 | some .null => .ok ([], [])
                 | some (.seq xs) => parseSteps f xs
                 | some _ => .error .badShape : Except Hard (List Step × List Warn)) with
          | .error e => .error e
          | .ok (ss, ws) =>
            if ws.isEmpty then .ok (.group key grp (some ss) (remMap (remainder m Gen.struct_GroupStep)))
            else .error .wrapped
end

/-- Nesting fuel: a `Val` cannot nest deeper than its size; the driver passes a large constant. -/
def stepFuel : Nat := 10000

/-- `(*Pipeline).UnmarshalOrdered`. -/
def parsePipeline (v : Val) : Except Hard (Pipeline × List Warn) :=
  let finish (steps : Option (List Step)) (env : Option (List (String × String))) (rem : UMap Val) (ws : List Warn) :
      Except Hard (Pipeline × List Warn) :=
    match steps with
    | some l => .ok ({ steps := some l, env := env, rem := rem }, ws)
    | none => .ok ({ steps := some [], env := env, rem := rem }, ws ++ [.noSteps])
  match v with
  | .omap m =>
    let t := taken m Gen.struct_Pipeline
    match (match fieldOf t "Steps" with
           | none => .ok (none, [])
           | some .null => .ok (some [], [])
           | some (.seq xs) => (parseSteps stepFuel xs).map fun r => (some r.1, r.2)
           | some _ => .error .badShape : Except Hard (Option (List Step) × List Warn)) with
    | .error e => .error e
    | .ok (steps, ws) =>
      match optField t "Env" none parseEnvOrdered with
      | .error e => .error e
      | .ok env => finish steps env (remMap (remainder m Gen.struct_Pipeline)) ws
  | .seq xs =>
    match parseSteps stepFuel xs with
    | .error e => .error e
    | .ok (ss, ws) => finish (some ss) none none ws
  | _ => .error .topLevel

end GoPipeline.Parse
