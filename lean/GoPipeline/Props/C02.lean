/-
  C02 — signed steps still verify after serialisation and re-parse (JSON leg, model level).
  The command step is `GoPipeline/Lemmas/SignedRoundtrip.lean`, which composes C09 (round trip of the typed
  step), C01 (`complete`: the honest signature verifies) and the signing model; step trees are those of
  `Lemmas/StepOK.lean` (every parsed tree is well-formed), the pipeline is `Lemmas/SignedPipeline.lean`.

  Chain: m --parseCommand--> c --sign, attach--> c_s --mCommand, text codec (rereadJ)--> kvs
         --parseCommand (this is Parse on the pipeline's JSON and CommandStep.UnmarshalJSON)--> c'
         --verify (record read out of c'.signature, public key, env ⊇ pipeline env)--> ok.

  Why it holds: the signed payload is a function of what survives the round trip: the command, the env,
  plugins and matrix pointer up to nil vs empty (`EmptyToNil*`), plugin sources up to canonicalisation
  (`fullSource` is idempotent) and empty plugin configs as null (C09 normal form), and the marshalled matrix,
  which comes back exactly (the C09 normal form is too coarse INSIDE the matrix, see the first section).
  The embedded signature record comes back exactly, `verify` ignores the `signature` field, and C01
  (`complete`) says the honest signature verifies.

  Side conditions: `StableCommand` as in C09 (findings F11, F14, JStable content). The YAML leg is in
  Props/C02Y.lean; interpolating before signing is in Props/C02OK.lean and Props/C02Interp.lean. Real key material
  and the JWS encoding are covered by the correspondence and the end-to-end oracle of the harness only.
-/
import GoPipeline.Lemmas.SignedPipeline
import GoPipeline.Lemmas.ValEq
import GoPipeline.Props.C01   -- `toyScheme` (non-vacuity example at the end)
set_option linter.unusedVariables false
namespace GoPipeline.SignedRT
open GoPipeline GoPipeline.Pipe GoPipeline.Parse GoPipeline.Marshal GoPipeline.Signing GoPipeline.Roundtrip

variable (S : SigScheme)

/-! ### The payload sees the normal form only

  With `normCommand c' = normCommand c` as only hypothesis these two statements are FALSE.
  `EmptyToNilMap/Slice/Ptr` normalise the outermost container of each
  signed field only; inside the matrix the payload still distinguishes an empty non-nil container from nil
  (`"setup":{}` vs `"setup":null`, a dimension `"os":[]` vs `"os":null`, an adjustment `"with":{}` vs
  `"with":null`), whereas the C09 normal form `normMatrix` identifies them.  Counterexample (proved below):
  two steps with command `x` and matrix `{adjustments: [{with: {a: b}}]}`, one with `setup: {}` (empty
  non-nil `MatrixSetup`), one without `setup`.  The side condition `MatrixInnerNonEmpty`
  (Model/SignedRoundtrip.lean) excludes exactly these three shapes.  It is NOT needed by the round-trip
  theorems below: the round trip returns these containers exactly (`MatrixSame`). -/

/-- Two steps with the same normal form (nil vs empty containers, plugin sources canonicalised, empty
    plugin configs as null) and no empty non-nil container inside their matrices have the same value for
    every signed field. -/
theorem C02_signed_fields_see_normal_form_only (c c' : CommandStep) (repo f : String)
    (h : normCommand c' = normCommand c) (ht : MatrixInnerNonEmpty c) (ht' : MatrixInnerNonEmpty c') :
    fieldValue c' repo f = fieldValue c repo f :=
  fieldValue_of_sigSame (sigSame_of_norm h ht' ht) repo f

/-- …hence the same payload for the same field list and env, and the same verdict. -/
theorem C02_verify_sees_normal_form_only (r : Record S) (pub : S.Pub) (c c' : CommandStep) (repo : String)
    (env : List (String × String)) (h : normCommand c' = normCommand c)
    (ht : MatrixInnerNonEmpty c) (ht' : MatrixInnerNonEmpty c') :
    verify S r pub c' repo env = verify S r pub c repo env :=
  verify_of_sigSame S r pub repo env (sigSame_of_norm h ht' ht)

/-- The counterexample without the side condition: same normal form, different signed `matrix` value
    (`{"adjustments":[{"with":{"a":"b"}}],"setup":{}}` vs `…,"setup":null}`). -/
example :
    let adj : Adjustment := { with_ := some [("a", "b")], skip := .null, rem := none }
    let c : CommandStep := { (default : CommandStep) with
      command := "x", matrix := some { setup := some [], adjustments := some [some adj], rem := none } }
    let c' : CommandStep := { (default : CommandStep) with
      command := "x", matrix := some { setup := none, adjustments := some [some adj], rem := none } }
    normCommand c' = normCommand c ∧ fieldValue c' "r" "matrix" ≠ fieldValue c "r" "matrix" := by
  decide +kernel

/-! ### One command step: parse, sign, marshal, re-parse, verify -/

/-- The embedded signature record survives the round trip unchanged and verifies for the re-parsed step
    with the public key, under any verification env that extends the signed pipeline env. -/
theorem C02_signed_step_verifies_after_roundtrip (render : S.Sig → String) (parseSig : String → Option S.Sig)
    (hrender : ∀ s, parseSig (render s) = some s)
    (m : Unm.Entries) (c : CommandStep) (hm : NoUMapKVs m) (hk : (m.map (·.1)).Nodup)
    (h : parseCommand m = .ok c) (hs : StableCommand c)
    (k : S.Key) (alg repo : String) (penv env₁ : List (String × String)) (henv : EnvExtends penv env₁) :
    ∃ kvs c', rereadJ (mCommand (attach S render (sign S k alg c repo penv) c)) = .omap kvs ∧
      parseCommand kvs = .ok c' ∧
      c'.signature = (attach S render (sign S k alg c repo penv) c).signature ∧
      StepVerifies S parseSig (S.pubOf k) repo env₁ c' :=
  let ⟨kvs, c', h1, h2, h3, h4, _⟩ :=
    signed_command_core S render parseSig hrender c (parseCommand_inv hm h) hs k alg repo penv env₁ henv
  ⟨kvs, c', h1, h2, h3, h4⟩

/-! ### Step trees: SignSteps, marshal, re-parse — every command step verifies -/

/-- For every step kind, groups recursively: after `SignSteps`, marshalling and re-parsing, every command
    step of the result carries a verifying signature. -/
theorem C02_signed_steps_verify_after_roundtrip (render : S.Sig → String) (parseSig : String → Option S.Sig)
    (hrender : ∀ s, parseSig (render s) = some s)
    (f : Nat) (x : Val) (s : Step) (w : List Warn) (hx : NoUMap x) (hd : KeysNodup x)
    (h : parseStep f x = .ok (s, w)) (hs : StableStep s)
    (k : S.Key) (alg repo : String) (penv env₁ : List (String × String)) (henv : EnvExtends penv env₁)
    (signed : Step) (hsign : signStep S render k alg repo penv s = .ok signed) :
    ∃ j s' w', mStep signed = .ok j ∧ parseStep f (rereadJ j) = .ok (s', w') ∧
      VerifiesAll S parseSig (S.pubOf k) repo env₁ s' :=
  let ⟨hok, hdep⟩ := parseStep_stepOK f x s w hx hd h
  signed_steps_roundtrip_ok S render parseSig k alg repo penv env₁ hrender s hok hs f hdep henv signed hsign

/-- `SignSteps` on the steps of a parsed pipeline, `MarshalJSON`, re-parse: every command step verifies. -/
theorem C02_signed_pipeline_verifies_after_roundtrip (render : S.Sig → String) (parseSig : String → Option S.Sig)
    (hrender : ∀ s, parseSig (render s) = some s)
    (v : Val) (p : Pipeline) (ws : List Warn) (hv : NoUMap v) (hd : KeysNodup v)
    (h : parsePipeline v = .ok (p, ws)) (hs : StablePipeline p)
    (k : S.Key) (alg repo : String) (env₁ : List (String × String))
    (henv : EnvExtends (p.env.getD []) env₁)
    (signed : List Step) (hsign : signSteps S render k alg repo (p.env.getD []) (p.steps.getD []) = .ok signed) :
    ∃ j p' ws', mPipeline { p with steps := some signed } = .ok j ∧ parsePipeline (rereadJ j) = .ok (p', ws') ∧
      VerifiesAllList S parseSig (S.pubOf k) repo env₁ (p'.steps.getD []) :=
  let ⟨j, p', ws', h1, h2, _, h4⟩ :=
    signed_pipeline_ok S render parseSig jsonLeg v p ws hv hd h hs.1 k alg repo env₁
      (signed_core_json S render parseSig k alg repo _ env₁ hrender henv) signed hsign
  ⟨j, p', ws', h1, h2, h4⟩

/-! ### The parser's image matters (finding F21) -/

/-- The step of finding F21: its unknown fields hold the declared key `plugins` (what interpolation of an
    unknown key `"${P}"` with `P=plugins` produces), so it is outside the parser's image. -/
def cF21 : CommandStep :=
  { (default : CommandStep) with command := "echo hi", rem := some [("plugins", .seq [.str "docker#v1"])] }

/-- Finding F21 in the model: `cF21` marshals with that entry under the field's name, re-parses with it as the
    typed field, and the signed `plugins` value differs: the honest signature no longer verifies. The round-trip
    theorems exclude it through `parseCommand m = .ok c` (the parser's guarantee `CommandOK`: no unknown key is a
    declared key). -/
example : ∃ kvs c', rereadJ (mCommand cF21) = .omap kvs ∧ parseCommand kvs = .ok c' ∧
    fieldValue c' "r" "plugins" ≠ fieldValue cF21 "r" "plugins" := by
  have h : ∃ c', parseCommand [("command", .str "echo hi"), ("plugins", .seq [.str "docker#v1"])] = .ok c' ∧
      fieldValue c' "r" "plugins" ≠ fieldValue cF21 "r" "plugins" := by decide +kernel
  obtain ⟨c', h1, h2⟩ := h
  exact ⟨_, c', by decide +kernel, h1, h2⟩

namespace Example

/-- A signature of the toy scheme (key, message) as text: `xxx|message` with one `x` per unit of the key. -/
def renderToy (s : toyScheme.Sig) : String := String.ofList (List.replicate s.1 'x' ++ '|' :: s.2)
def parseToy (t : String) : Option toyScheme.Sig :=
  some ((t.toList.takeWhile (· == 'x')).length, (t.toList.dropWhile (· == 'x')).drop 1)

theorem parseToy_render (s : toyScheme.Sig) : parseToy (renderToy s) = some s := by
  obtain ⟨n, cs⟩ := s
  simp [parseToy, renderToy, String.toList_ofList]

def mEx : Unm.Entries :=
  [("key", .str "build"), ("command", .str "make test"),
   ("plugins", .seq [.omap [("docker#v5.0.0", .omap [("image", .str "alpine")])], .str "ecr"]),
   ("env", .omap [("FOO", .str "bar"), ("BAZ", .str "1")])]

def cEx : CommandStep :=
  { key := "build", label := "", command := "make test",
    plugins := some [some { source := "docker#v5.0.0", config := .umap [("image", .str "alpine")] },
                     some { source := "ecr", config := .null }],
    env := some [("BAZ", "1"), ("FOO", "bar")], signature := none, matrix := none, cache := none, rem := none }

theorem parse_mEx : parseCommand mEx = .ok cEx := by decide +kernel

theorem noUMap_mEx : NoUMapKVs mEx := by simp [mEx, NoUMapKVs, NoUMap, NoUMapList]

theorem stable_cEx : StableCommand cEx := by
  refine ⟨⟨fun _ => rfl, fun h => by simp [cEx] at h⟩, ?_, fun m h => by simp [cEx] at h, fun k h => by simp [cEx] at h, trivial⟩
  intro l hl p hp
  simp only [cEx, Option.some.injEq] at hl
  subst hl
  simp only [List.mem_cons, Option.some.injEq, List.not_mem_nil, or_false] at hp
  rcases hp with rfl | rfl <;> simp [JStable, JStableKVs]

def keyEx : toyScheme.Key := (7 : Nat)
def penvEx : List (String × String) := [("CI", "true"), ("FOO", "shadowed")]
def env1Ex : List (String × String) := [("HOME", "/root"), ("FOO", "shadowed"), ("CI", "true")]

theorem envExtends_ex : EnvExtends penvEx env1Ex := by
  refine ⟨by decide +kernel, by decide +kernel, ?_⟩
  intro name v h
  simp only [penvEx, List.mem_cons, Prod.mk.injEq, List.not_mem_nil, or_false] at h
  rcases h with ⟨rfl, rfl⟩ | ⟨rfl, rfl⟩ <;> rfl

/-- The hypotheses of `C02_signed_step_verifies_after_roundtrip` are jointly satisfiable on a non-trivial step
    (two plugins, one with a short source and a config; two env variables, one of which shadows a pipeline
    variable; a verification env with an extra variable), with the toy scheme of C01. -/
example : ∃ kvs c', rereadJ (mCommand (attach toyScheme renderToy (sign toyScheme keyEx "toy-alg" cEx "git@example.com:acme/app.git" penvEx) cEx)) = .omap kvs ∧
      parseCommand kvs = .ok c' ∧
      c'.signature = (attach toyScheme renderToy (sign toyScheme keyEx "toy-alg" cEx "git@example.com:acme/app.git" penvEx) cEx).signature ∧
      StepVerifies toyScheme parseToy (toyScheme.pubOf keyEx) "git@example.com:acme/app.git" env1Ex c' :=
  C02_signed_step_verifies_after_roundtrip toyScheme renderToy parseToy parseToy_render mEx cEx
    noUMap_mEx (by decide +kernel) parse_mEx stable_cEx keyEx "toy-alg"
    "git@example.com:acme/app.git" penvEx env1Ex envExtends_ex

end Example

end GoPipeline.SignedRT
