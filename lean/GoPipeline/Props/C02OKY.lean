/-
  C02 on structurally well-formed steps, YAML leg — the signed round trip through `yaml.Marshal` without the
  parser hypothesis (model level).  The lemmas behind the statements are in `GoPipeline/Lemmas/StepOKY.lean`.

  The fourth corner of the square

                         parser image            every `StepOK` tree
      JSON leg          `Props/C02.lean`          `Props/C02OK.lean`, `Props/C02Interp.lean`
      YAML leg          `Props/C02Y.lean`         this file

    StepOK ∧ StableY ⇒ signed YAML round trip verifies      (C02_signed_tree_…_yaml_roundtrip_ok, …_list_…)
    parse, interpolate (TreesFixed), SignSteps, yaml.Marshal, re-read, re-parse ⇒ every command step verifies
                                                             (C02_interpolate_then_sign_steps_yaml, …_pipeline_yaml)

  NO EXTRA HYPOTHESIS with respect to the JSON-leg statements of `Props/C02OK.lean` / `Props/C02Interp.lean`; the
  stability hypothesis is the YAML-leg one (`StableStepY` / `StableStepsY`, implied by `StableStep` /
  `StableSteps`: `C02_stable_implies_stableY`).  The points where `yaml.Marshal` and `json.Marshal` differ
  (header of `Model/MarshalY.lean`) are all outside `StepOK` or discharged by it:
    * `inlineConflict` (an unknown key equal to a declared key is an encoding error): `StepOK` contains
      `RemOK.prim` at every struct level (command step, cache, matrix, adjustment, group);
    * a trigger step without contents is `{}` (JSON: `null`): `StepOK (.trigger c)` asks the contents to select
      the trigger kind, so they are not empty (`C02_trigger_without_contents_not_ok`), and non-empty contents are
      the same Go map on both legs;
    * a nil step list is `[]` (JSON: `null`): a group with `steps := none` is not `StepOK`;
    * wait / input scalars and the empty input step: the same on both legs.
-/
import GoPipeline.Lemmas.StepOKY
import GoPipeline.Props.C02Interp   -- `ExampleInterp.*`, and through it `ExampleOK.*`, `Example.*`, `toyScheme`
namespace GoPipeline.SignedRT
open GoPipeline GoPipeline.Pipe GoPipeline.Parse GoPipeline.Marshal GoPipeline.Signing GoPipeline.Roundtrip
  GoPipeline.MarshalY

variable (S : SigScheme)

/-! ### The signed YAML round trip for every well-formed step tree -/

/-- For EVERY typed step tree that is structurally well-formed (parsed, interpolated or built through the API):
    after `SignSteps`, `yaml.Marshal` and re-parsing with enough fuel, every command step of the result carries a
    verifying signature. -/
theorem C02_signed_tree_verifies_after_yaml_roundtrip_ok (render : S.Sig → String)
    (parseSig : String → Option S.Sig) (hrender : ∀ s, parseSig (render s) = some s)
    (s : Step) (hok : StepOK s) (hs : StableStepY s) (f : Nat) (hf : stepDepth s ≤ f)
    (k : S.Key) (alg repo : String) (penv env₁ : List (String × String)) (henv : EnvExtends penv env₁)
    (signed : Step) (hsign : signStep S render k alg repo penv s = .ok signed) :
    ∃ j s' w', yStep signed = .ok j ∧ parseStep f (rereadJ j) = .ok (s', w') ∧
      VerifiesAll S parseSig (S.pubOf k) repo env₁ s' :=
  signed_steps_roundtripY_ok S render parseSig k alg repo penv env₁ hrender s hok hs f hf henv signed hsign

theorem C02_signed_list_verifies_after_yaml_roundtrip_ok (render : S.Sig → String)
    (parseSig : String → Option S.Sig) (hrender : ∀ s, parseSig (render s) = some s)
    (l : List Step) (hok : StepsOK l) (hs : StableStepsY l) (f : Nat) (hf : stepsDepth l ≤ f)
    (k : S.Key) (alg repo : String) (penv env₁ : List (String × String)) (henv : EnvExtends penv env₁)
    (l' : List Step) (hsign : signSteps S render k alg repo penv l = .ok l') :
    ∃ js ss' ws', ySteps l' = .ok js ∧ parseSteps f (rereadJList js) = .ok (ss', ws') ∧
      VerifiesAllList S parseSig (S.pubOf k) repo env₁ ss' :=
  signed_list_roundtripY_ok S render parseSig k alg repo penv env₁ hrender l hok hs f hf henv l' hsign

/-- The YAML-leg stability hypothesis is the weaker one (no condition on an adjustment's empty-ish `skip`,
    finding F11): whatever is stable for the JSON leg is stable for the YAML leg. -/
theorem C02_stable_implies_stableY (l : List Step) (hs : StableSteps l) : StableStepsY l :=
  stableStepsY_of l hs

/-! ### Parse, interpolate, SignSteps, yaml.Marshal, re-read, re-parse, verify -/

/-- The pipeline's steps: parsed from a decoded document, interpolated with a transformer that is `TreesFixed`
    for them, signed by `SignSteps`, marshalled by `yaml.Marshal`, re-read and re-parsed with the same fuel: every
    command step of the result (at any group depth) carries a verifying signature. -/
theorem C02_interpolate_then_sign_steps_yaml {E : Type} (render : S.Sig → String)
    (parseSig : String → Option S.Sig) (hrender : ∀ s, parseSig (render s) = some s)
    (f : Nat) (xs : List Val) (l l₁ : List Step) (ws : List Warn) (hx : NoUMapList xs) (hd : KeysNodupList xs)
    (h : parseSteps f xs = .ok (l, ws))
    (tf : String → Except E String) (hi : Interp.interpSteps .env tf l = .ok l₁) (hfix : TreesFixed tf l)
    (hs : StableStepsY l₁)
    (k : S.Key) (alg repo : String) (penv env₁ : List (String × String)) (henv : EnvExtends penv env₁)
    (signed : List Step) (hsign : signSteps S render k alg repo penv l₁ = .ok signed) :
    ∃ js ss' ws', ySteps signed = .ok js ∧ parseSteps f (rereadJList js) = .ok (ss', ws') ∧
      VerifiesAllList S parseSig (S.pubOf k) repo env₁ ss' := by
  obtain ⟨hok₁, hdep₁⟩ := parse_then_interp_list f xs l l₁ ws hx hd h tf hi hfix
  exact signed_list_roundtripY_ok S render parseSig k alg repo penv env₁ hrender l₁ hok₁ hs f hdep₁ henv signed hsign

/-- The same through `(*Pipeline).Interpolate` (the part after the env block) on the typed pipeline. -/
theorem C02_interpolate_then_sign_pipeline_yaml {E : Type} (render : S.Sig → String)
    (parseSig : String → Option S.Sig) (hrender : ∀ s, parseSig (render s) = some s)
    (f : Nat) (xs : List Val) (l : List Step) (ws : List Warn) (hx : NoUMapList xs) (hd : KeysNodupList xs)
    (h : parseSteps f xs = .ok (l, ws))
    (tf : String → Except E String) (p p₁ : Pipeline) (hp : p.steps = some l)
    (hi : Interp.interpPipelineRest tf p = .ok p₁) (hfix : TreesFixed tf l) :
    ∃ l₁, p₁.steps = some l₁ ∧ StepsOK l₁ ∧ stepsDepth l₁ ≤ f ∧
      (StableStepsY l₁ → ∀ (k : S.Key) (alg repo : String) (penv env₁ : List (String × String)),
        EnvExtends penv env₁ → ∀ signed, signSteps S render k alg repo penv l₁ = .ok signed →
        ∃ js ss' ws', ySteps signed = .ok js ∧ parseSteps f (rereadJList js) = .ok (ss', ws') ∧
          VerifiesAllList S parseSig (S.pubOf k) repo env₁ ss') := by
  obtain ⟨l₁, h1, hok₁, hdep₁⟩ := parse_then_interp_pipeline f xs l ws hx hd h tf p p₁ hp hi hfix
  exact ⟨l₁, h1, hok₁, hdep₁, fun hs k alg repo penv env₁ henv signed hsign =>
    signed_list_roundtripY_ok S render parseSig k alg repo penv env₁ hrender l₁ hok₁ hs f hdep₁ henv signed hsign⟩

/-! ### The leg difference on trigger steps is outside `StepOK` -/

/-- A trigger step without contents (written `{}` by `yaml.Marshal`, `null` by `json.Marshal`) is not
    well-formed on either representation of "no contents": neither form re-parses to a trigger step. -/
theorem C02_trigger_without_contents_not_ok : ¬ StepOK (.trigger none) ∧ ¬ StepOK (.trigger (some [])) := by
  constructor <;>
  · intro h
    rw [StepOK] at h
    exact selOf_ne_nil h rfl

namespace ExampleOKY
open Example ExampleOK ExampleInterp

/-- All hypotheses of `C02_interpolate_then_sign_steps_yaml` are jointly satisfiable on the list of
    `Props/C02Interp.lean` (a group that holds a command step with plugins, env, matrix with an adjustment, cache
    and unknown fields, and a mapping-form wait step; then a scalar wait step), with a transformer that really
    rewrites strings and the toy scheme of C01: `SignSteps` succeeds, `yaml.Marshal` succeeds (no
    `inlineConflict`), and the re-parsed list verifies. -/
example : ∃ signed js ss' ws',
    signSteps toyScheme renderToy keyEx "toy-alg" "git@example.com:acme/app.git" penvEx l1Ex = .ok signed ∧
    ySteps signed = .ok js ∧ parseSteps 2 (rereadJList js) = .ok (ss', ws') ∧
    VerifiesAllList toyScheme parseToy (toyScheme.pubOf keyEx) "git@example.com:acme/app.git" env1Ex ss' := by
  obtain ⟨signed, hsigned⟩ := sign_l1Ex
  obtain ⟨js, ss', ws', h1, h2, h3⟩ := C02_interpolate_then_sign_steps_yaml toyScheme renderToy parseToy
    parseToy_render 2 xsEx lEx l1Ex [] noUMap_xsEx keysNodup_xsEx parse_xsEx tfEx interp_lEx treesFixed_ex
    (C02_stable_implies_stableY l1Ex stable_l1Ex) keyEx "toy-alg" "git@example.com:acme/app.git" penvEx env1Ex
    envExtends_ex signed hsigned
  exact ⟨signed, js, ss', ws', hsigned, h1, h2, h3⟩

/-- A step tree OUTSIDE the parser's image (`treeEx` of `Props/C02OK.lean`: a group holding a command step and
    an API-built empty wait step) through the tree-level theorem. -/
example : ∃ signed j s' w',
    signStep toyScheme renderToy keyEx "toy-alg" "git@example.com:acme/app.git" penvEx treeEx = .ok signed ∧
    yStep signed = .ok j ∧ parseStep 2 (rereadJ j) = .ok (s', w') ∧
    VerifiesAll toyScheme parseToy (toyScheme.pubOf keyEx) "git@example.com:acme/app.git" env1Ex s' := by
  have hsign : ∃ signed, signStep toyScheme renderToy keyEx "toy-alg" "git@example.com:acme/app.git" penvEx treeEx =
      .ok signed := by
    rw [treeEx, Signing.signStep_group_some, Signing.signSteps_cons, Signing.signStep_command,
      Signing.signSteps_cons, Signing.signStep_wait, Signing.signSteps_nil]
    exact ⟨_, rfl⟩
  obtain ⟨signed, hsigned⟩ := hsign
  obtain ⟨j, s', w', h1, h2, h3⟩ := C02_signed_tree_verifies_after_yaml_roundtrip_ok toyScheme renderToy parseToy
    parseToy_render treeEx stepOK_treeEx (stableStepY_of treeEx stable_treeEx) 2
    (by simp [treeEx, stepDepth, stepsDepth]) keyEx "toy-alg"
    "git@example.com:acme/app.git" penvEx env1Ex envExtends_ex signed hsigned
  exact ⟨signed, j, s', w', hsigned, h1, h2, h3⟩

/-- A trigger step WITH contents is well-formed and goes through the YAML leg (signing leaves it alone; the
    statement is about the re-parse). -/
def trigEx : Step := .trigger (some [("async", .bool true), ("trigger", .str "deploy")])

example : ∃ j s' w', yStep trigEx = .ok j ∧ parseStep 1 (rereadJ j) = .ok (s', w') ∧
    VerifiesAll toyScheme parseToy (toyScheme.pubOf keyEx) "git@example.com:acme/app.git" env1Ex s' :=
  C02_signed_tree_verifies_after_yaml_roundtrip_ok toyScheme renderToy parseToy parseToy_render trigEx
    (by simp only [trigEx, StepOK, Option.getD_some]; exact eq_ok_of_decide (by decide +kernel)) (by simp [trigEx, StableStepY, StableUMap, JStableKVs, JStable]) 1
    (by simp [trigEx, stepDepth]) keyEx "toy-alg" "git@example.com:acme/app.git" penvEx env1Ex envExtends_ex trigEx
    (by rw [trigEx, Signing.signStep_trigger])

end ExampleOKY

end GoPipeline.SignedRT
