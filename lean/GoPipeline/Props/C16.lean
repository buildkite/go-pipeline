/-
  C16 — the reflective unmarshaller assigns every input key to exactly one destination.
  The lemmas the proofs rest on are in `GoPipeline/Lemmas/Unmarshal.lean`.
-/
import GoPipeline.Lemmas.Unmarshal
import GoPipeline.Gen.Structs
import GoPipeline.Lemmas.ValEq
-- `hn` of `C16_destination_field`, `wf` of `C16_destination_inline`, `wf` and `hm` of
-- `C16_remainder_in_order` are not used by the proofs.
set_option linter.unusedVariables false
namespace GoPipeline.Unm

def keysOf (m : Entries) : List String := m.map (·.1)

/-- Partition: the keys consumed by fields together with the keys passed to the inline field are
    exactly the input keys — none lost, none duplicated. -/
theorem C16_partition (fs : List Field) (m : Entries) (hm : (keysOf m).Nodup) (wf : WF fs) :
    (outlineKeys m fs ++ keysOf (remainder m fs)).Perm (keysOf m) := partition fs m hm wf

/-- No key is consumed by two fields. -/
theorem C16_no_key_twice (fs : List Field) (m : Entries) (wf : WF fs) :
    (outlineKeys m fs).Nodup := outline_nodup fs m wf

/-- Each consumed value is the input's value for that key. -/
theorem C16_taken_value (fs : List Field) (m : Entries) (f k : String) (v : Val)
    (h : (f, k, v) ∈ taken m fs) : m.lookup k = some v := taken_value fs m f k v h

/-- Destination rule: a key goes to the field whose tag names it, else to the field listing it as its
    first present alias when that field's own key is absent, else to the inline remainder. -/
theorem C16_destination_field (fs : List Field) (m : Entries) (wf : WF fs) (hn : (fs.map Field.name).Nodup)
    (k : String) (hk : k ∈ keysOf m) (f : String) :
    (∃ v, (f, k, v) ∈ taken m fs) ↔ destOf m fs k = .field f :=
  destination_field_aux fs m wf.1 k hk f

theorem C16_destination_inline (fs : List Field) (m : Entries) (wf : WF fs) (k : String) (hk : k ∈ keysOf m) :
    k ∈ keysOf (remainder m fs) ↔ destOf m fs k = .inline := by
  unfold keysOf at hk ⊢
  rw [mem_keys_remainder, destOf_inline_iff fs m k hk]
  simp [hk]

/-- The inline remainder keeps input order and values: it is a filter of the input. -/
theorem C16_remainder_in_order (fs : List Field) (m : Entries) (wf : WF fs) (hm : (keysOf m).Nodup) :
    remainder m fs = m.filter (fun e => destOf m fs e.1 == .inline) := by
  unfold remainder
  apply List.filter_congr
  intro e he
  have hk : e.1 ∈ m.map (·.1) := List.mem_map_of_mem he
  have := destOf_inline_iff fs m e.1 hk
  by_cases hin : e.1 ∈ outlineKeys m fs
  · have hd : destOf m fs e.1 ≠ .inline := fun h => (this.1 h) hin
    simp [hin, hd]
  · have hd : destOf m fs e.1 = .inline := this.2 hin
    simp [hin, hd]

/-- Absent keys leave fields untouched. -/
theorem C16_absent_untouched (n : Nat) (fs : List Field) (m : Entries) (cvs cvs' : List (String × GoVal))
    (hn : (fs.map Field.name).Nodup) (h : decodeStruct n fs m cvs = .ok cvs')
    (f : Field) (hf : f ∈ fs) (hr : f.role ≠ .inline) (habs : f.role = .skip ∨ fieldTake m f = none) :
    getField f.name cvs' = getField f.name cvs := by
  have hnot : f.name ∉ (taken m fs).map (·.1) := by
    intro hmem
    obtain ⟨⟨nm, k, v⟩, ht, hnm⟩ := List.mem_map.1 hmem
    simp only at hnm
    subst hnm
    obtain ⟨g, hg, h1, h2, h3⟩ := mem_taken.1 ht
    have := name_inj hn hg hf h2
    subst this
    rcases habs with h' | h'
    · rw [h1] at h'; cases h'
    · rw [h3] at h'; cases h'
  -- `decodeTaken` writes only fields named in `taken`; the inline field, written last, has another name
  unfold decodeStruct at h
  split at h
  · cases h
  · cases hd : decodeTaken n fs (taken m fs) cvs with
    | error e => simp [hd] at h
    | ok cvs'' =>
      have hframe := decodeTaken_getField n fs f.name _ _ _ hd hnot
      simp only [hd] at h
      split at h
      · rename_i g hg
        have hgmem : g ∈ inlineFields fs := by rw [hg]; simp
        unfold inlineFields at hgmem
        rw [List.mem_filter] at hgmem
        have hne : f.name ≠ g.name := by
          intro e
          have := name_inj hn hf hgmem.1 e
          subst this
          exact hr (by simpa using hgmem.2)
        split at h
        · cases h; exact hframe
        · split at h
          · cases h
          · cases h
            rw [getField_setField_ne _ _ hne, hframe]
      · cases h; exact hframe

/-- `null` zeroes the destination, whatever it held. -/
theorem C16_null_zeroes (n : Nat) (ty : GoTy) (cur : GoVal) (h : ∀ s, ty ≠ .named s) :
    unmarshal (n + 1) ty .null cur = .ok (zero ty) := by
  unfold unmarshal
  cases ty with
  | named s => exact absurd rfl (h s)
  | omap e => simp [zero]
  | _ => rfl

/-- For alias-free targets the key assignment is the YAML library's rule: a field takes the entry
    under its key, the inline field the rest, in order. -/
theorem C16_alias_free_is_yaml_rule (fs : List Field) (m : Entries) (h : aliasFree fs) :
    taken m fs = refTaken m fs ∧ remainder m fs = refRemainder m fs := by
  refine ⟨taken_eq_refTaken fs m h, ?_⟩
  unfold remainder refRemainder
  apply List.filter_congr
  intro e he
  have hk : e.1 ∈ m.map (·.1) := List.mem_map_of_mem he
  have hiff : e.1 ∈ outlineKeys m fs ↔
      e.1 ∈ (fs.filter (fun f => f.role == .normal)).map Field.key := by
    rw [mem_outlineKeys, List.mem_map]
    constructor
    · rintro ⟨f, hf, hr, v, ht⟩
      rw [fieldTake_aliasFree (h f hf)] at ht
      cases hl : m.lookup f.key with
      | none => simp [hl] at ht
      | some w =>
        simp only [hl, Option.map_some, Option.some.injEq, Prod.mk.injEq] at ht
        exact ⟨f, List.mem_filter.2 ⟨hf, by simp [hr]⟩, ht.1⟩
    · rintro ⟨f, hf, hfk⟩
      rw [List.mem_filter] at hf
      obtain ⟨v, hv⟩ := mem_keys_lookup_some hk
      refine ⟨f, hf.1, by simpa using hf.2, v, ?_⟩
      rw [fieldTake_aliasFree (h f hf.1), hfk, hv]
      rfl
  congr 1
  rw [Bool.eq_iff_iff, List.contains_iff_mem, List.contains_iff_mem]
  exact hiff

/-- Every struct of package pipeline (regenerated from the source) has a well-formed descriptor,
    so the theorems above apply to all of them. -/
theorem C16_repo_structs_wf : ∀ d ∈ Gen.allStructs, WF d.2 := by decide +kernel

/-! Non-vacuity -/
example : taken [("id", .str "x"), ("name", .str "n"), ("zzz", .int 1), ("identifier", .str "y")] Gen.struct_CommandStep
    = [("Key", "id", .str "x"), ("Label", "name", .str "n")] := by decide +kernel
example : keysOf (remainder [("id", .str "x"), ("name", .str "n"), ("zzz", .int 1), ("identifier", .str "y")] Gen.struct_CommandStep)
    = ["zzz", "identifier"] := by decide +kernel

end GoPipeline.Unm
