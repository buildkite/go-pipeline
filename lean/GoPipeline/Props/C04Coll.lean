/-
  C04 with collisions — what interpolation does to a mapping when renamed keys collide, and the tie
  of the Interp model's ordered walk to the C05-verified walk.
  The theorems delegate to `GoPipeline/Lemmas/InterpColl.lean` and, for the ordered walk itself,
  `GoPipeline/Lemmas/Interp.lean`; the six collision shapes of the Go harness are checked at the end.

  Vocabulary:
    * `omapCb tf k v`       the callback of `interpolateOrderedMap`: `(tf k, interpVal tf v)` or the error;
    * `visited g kvs`       the entries the range cursor reaches: an entry is skipped iff an earlier
                            *visited* entry was renamed onto its key (`C04_ordered_walk_visited_iff`);
    * `lastPerKey g l`      drop an entry iff a later entry of `l` has the same new key;
    * `survivors g kvs`     `lastPerKey g (visited g kvs)`, a sublist of the INPUT entries;
    * `walkVal E g v`       whatever the walk makes of the value `v` (`C04_walkVal`).
-/
import GoPipeline.Lemmas.InterpColl
import GoPipeline.Lemmas.ValEq  -- decidable equality of values, for the test vectors at the end
namespace GoPipeline.Interp
open GoPipeline GoPipeline.Pipe

variable {E : Type}

/-! ### The model's ordered walk is the abstract walk of C05 (no hypothesis, duplicates included) -/

theorem C04_interpOMap_is_rangeReplace (tf : String → Except E String) (kvs : List (String × Val)) :
    interpOMap tf [] [] kvs =
      OMap.aRangeReplace (fun k v =>
        match tf k with
        | .error e => .error e
        | .ok k' =>
          match interpVal tf v with
          | .error e => .error e
          | .ok v' => .ok (k', v')) [] kvs := interpOMap_is_rangeReplace tf kvs

/-- In the middle of the walk: the abstract walk's `todo` is the part ahead minus the `dead` keys. -/
theorem C04_interpOMap_is_rangeReplace_gen (tf : String → Except E String)
    (rest done : List (String × Val)) (dead : List String) :
    interpOMap tf done dead rest =
      OMap.aRangeReplace (omapCb tf) done (rest.filter (fun p => !dead.contains p.1)) :=
  interpOMap_is_rangeReplace_gen tf rest done dead

/-- Composed with `C05_rangeReplace`: on a well-formed concrete ordered map the slot/tombstone walk
    (`Range` re-reading slots, `Replace` from inside the callback) computes the model's walk. -/
theorem C04_concrete_walk_computes_interpOMap (tf : String → Except E String) {c : OMap.CMap Val}
    (h : OMap.Inv c) :
    (match OMap.rangeReplace (omapCb tf) c with
     | .ok c' => OMap.Inv c' ∧ interpOMap tf [] [] (OMap.abs c) = .ok (OMap.abs c')
     | .error e => interpOMap tf [] [] (OMap.abs c) = .error e) := by
  have hr := OMap.rangeReplace_refines h (omapCb tf)
  rw [interpOMap_is_rangeReplace]
  -- `hr` and the goal are the same `match`, compiled once per file: they agree once the result is known
  cases hc : OMap.rangeReplace (omapCb tf) c with
  | error e => rw [hc] at hr; exact hr
  | ok c' => rw [hc] at hr; exact hr

/-! ### The ordered walk with collisions (transformer that never fails, input keys distinct)

  `NoCollideKVs' g kvs` speaks about the VALUES only (mappings nested inside them are collision-free,
  so that "the value with every string transformed once" is `mapVal g v`); the keys of `kvs` itself
  may collide freely.  Statements about keys alone need no hypothesis on the values. -/

/-- (i) The walk succeeds, whatever collides (no hypothesis at all). -/
theorem C04_ordered_walk_total (g : String → String) (kvs : List (String × Val)) :
    ∃ r, interpOMap (pureTf E g) [] [] kvs = .ok r :=
  (interpOMap_errFrom (pureTf E g) kvs [] []).ok_of_forall fun x _ => ⟨g x, rfl⟩

/-- The result: the images of the surviving input entries, in input order. -/
theorem C04_ordered_walk_eq (g : String → String) (kvs : List (String × Val))
    (hnd : (kvs.map (·.1)).Nodup) (hv : NoCollideKVs' g kvs) :
    interpOMap (pureTf E g) [] [] kvs = .ok ((survivors g kvs).map (fun p => (g p.1, mapVal g p.2))) :=
  orderedWalk_eq g kvs hnd hv

/-- The same for arbitrary values: `w v` is whatever the walk makes of the value `v`. -/
theorem C04_ordered_walk_eq_gen (g : String → String) (w : Val → Val) (kvs : List (String × Val))
    (hv : ∀ p ∈ kvs, interpVal (pureTf E g) p.2 = .ok (w p.2)) (hnd : (kvs.map (·.1)).Nodup) :
    interpOMap (pureTf E g) [] [] kvs = .ok ((survivors g kvs).map (fun p => (g p.1, w p.2))) :=
  interpOMap_walk g w kvs hv hnd

/-- … and there always is such a `w`. -/
theorem C04_walkVal (g : String → String) (v : Val) : interpVal (pureTf E g) v = .ok (walkVal E g v) :=
  interpVal_walkVal g v

/-- (ii) The keys of the result are pairwise distinct (no hypothesis on the values). -/
theorem C04_ordered_walk_keys_nodup (g : String → String) (kvs r : List (String × Val))
    (hnd : (kvs.map (·.1)).Nodup) (h : interpOMap (pureTf E g) [] [] kvs = .ok r) :
    (r.map (·.1)).Nodup := interpOMap_keys g kvs r hnd h ▸ lastPerKey_keys_nodup g _

/-- The keys of the result are the images of the surviving keys (no hypothesis on the values). -/
theorem C04_ordered_walk_keys (g : String → String) (kvs r : List (String × Val))
    (hnd : (kvs.map (·.1)).Nodup) (h : interpOMap (pureTf E g) [] [] kvs = .ok r) :
    r.map (·.1) = (survivors g kvs).map (fun p => g p.1) := interpOMap_keys g kvs r hnd h

/-- (iii) Every result entry is the image `(g k, mapVal g v)` of an input entry `(k, v)`, and the
    result keeps the input order. -/
theorem C04_ordered_walk_entries_are_images (g : String → String) (kvs r : List (String × Val))
    (hnd : (kvs.map (·.1)).Nodup) (hv : NoCollideKVs' g kvs)
    (h : interpOMap (pureTf E g) [] [] kvs = .ok r) :
    r.Sublist (kvs.map (fun (k, v) => (g k, mapVal g v))) := by
  rw [orderedWalk_eq g kvs hnd hv] at h
  injection h with h
  subst h
  exact (survivors_sublist g kvs).map _

/-- (iv) No collision (`keysFresh`: images distinct, a renamed key is not a key of the map): nothing
    is lost.  This is the ordered-map case of `C04_val`. -/
theorem C04_ordered_walk_no_collision (g : String → String) (kvs : List (String × Val))
    (hf : keysFresh g (kvs.map (·.1))) (hv : NoCollideKVs' g kvs) :
    interpOMap (pureTf E g) [] [] kvs = .ok (kvs.map (fun (k, v) => (g k, mapVal g v))) :=
  interpOMap_fresh g (mapVal g) kvs (interpVal_of_noCollideKVs' g kvs hv) hf

/-- (iv, sharp) Nothing is lost IFF the images are pairwise distinct and no entry is renamed onto the
    key of a LATER entry.  (`g` injective on the keys is not enough: `a ↦ b`, `b ↦ c` on `{a, b}` loses
    `b`; `keysFresh` is more than needed: the same `g` on `{b, a}` loses nothing.) -/
theorem C04_ordered_walk_nothing_lost_iff (g : String → String) (kvs : List (String × Val))
    (hnd : (kvs.map (·.1)).Nodup) (hv : NoCollideKVs' g kvs) :
    interpOMap (pureTf E g) [] [] kvs = .ok (kvs.map (fun (k, v) => (g k, mapVal g v))) ↔
      (kvs.map (fun p => g p.1)).Nodup ∧ kvs.Pairwise (fun p q => g p.1 = p.1 ∨ g p.1 ≠ q.1) := by
  rw [orderedWalk_eq g kvs hnd hv, ← survivors_eq_self_iff]
  constructor
  · intro h
    injection h with h
    apply (survivors_sublist g kvs).eq_of_length_le
    have := congrArg List.length h
    simp only [List.length_map] at this
    omega
  · intro h
    rw [h]

/-- (v) Last rename wins: the value the result holds under a key `k'` comes from the LAST VISITED
    entry whose key is mapped to `k'` (and `k'` is absent iff there is none). -/
theorem C04_ordered_walk_last_rename_wins (g : String → String) (kvs r : List (String × Val))
    (hnd : (kvs.map (·.1)).Nodup) (hv : NoCollideKVs' g kvs)
    (h : interpOMap (pureTf E g) [] [] kvs = .ok r) (k' : String) :
    r.lookup k' = ((visited g kvs).reverse.find? (fun p => g p.1 == k')).map (fun p => mapVal g p.2) := by
  rw [orderedWalk_eq g kvs hnd hv] at h
  injection h with h
  subst h
  exact lookup_lastPerKey g (mapVal g) k' _

/-- (v) Which entries are visited: `(k, v)` is reached iff no earlier visited entry was renamed
    (`g p.1 ≠ p.1`) onto `k`. -/
theorem C04_ordered_walk_visited_iff (g : String → String) (pre post : List (String × Val)) (k : String)
    (v : Val) (hnd : ((pre ++ (k, v) :: post).map (·.1)).Nodup) :
    (k, v) ∈ visited g (pre ++ (k, v) :: post) ↔ ∀ p ∈ visited g pre, g p.1 = p.1 ∨ g p.1 ≠ k :=
  mem_visited_iff g pre post k v hnd

/-- (v) "Earlier visited" is meaningful: what is visited of a prefix does not depend on what follows. -/
theorem C04_ordered_walk_visited_prefix (g : String → String) (pre post : List (String × Val)) :
    visited g pre <+: visited g (pre ++ post) := visited_prefix g pre post

/-- (v) Survivors are input entries, in input order. -/
theorem C04_survivors_sublist (g : String → String) (kvs : List (String × Val)) :
    (survivors g kvs).Sublist kvs := survivors_sublist g kvs

/-! ### The Go-map walk with collisions (`kvs` is the sorted snapshot; sortedness is not used) -/

theorem C04_gomap_walk_total (g : String → String) (kvs : List (String × Val)) :
    ∃ r, interpUMap (pureTf E g) [] kvs = .ok r :=
  (interpUMap_errFrom (pureTf E g) kvs []).ok_of_forall fun x _ => ⟨g x, rfl⟩

/-- The result is the store built from the images by later-wins insertion. -/
theorem C04_gomap_walk_eq (g : String → String) (kvs : List (String × Val)) (hv : NoCollideKVs' g kvs) :
    interpUMap (pureTf E g) [] kvs = .ok (umapOf (kvs.map (fun (k, v) => (g k, mapVal g v)))) :=
  umapOf_eq_umapFold _ ▸ interpUMap_walk g (mapVal g) kvs [] (interpVal_of_noCollideKVs' g kvs hv)

/-- The result is strictly sorted by key, so its keys are pairwise distinct (no hypothesis). -/
theorem C04_gomap_walk_sorted (g : String → String) (kvs r : List (String × Val))
    (h : interpUMap (pureTf E g) [] kvs = .ok r) :
    r.Pairwise (fun p q => p.1 < q.1) ∧ (r.map (·.1)).Nodup :=
  ⟨interpUMap_sorted g kvs r h, Parse.nodup_keys_of_sortedK (interpUMap_sorted g kvs r h)⟩

/-- Every result entry is the image of an input entry. -/
theorem C04_gomap_walk_entries_are_images (g : String → String) (kvs r : List (String × Val))
    (hv : NoCollideKVs' g kvs) (h : interpUMap (pureTf E g) [] kvs = .ok r) :
    ∀ q ∈ r, ∃ p ∈ kvs, q = (g p.1, mapVal g p.2) := by
  rw [interpUMap_walk g (mapVal g) kvs [] (interpVal_of_noCollideKVs' g kvs hv)] at h
  injection h with h
  subst h
  intro q hq
  rcases mem_umapFold _ _ hq with hq | hq
  · obtain ⟨p, hp, rfl⟩ := List.mem_map.1 hq
    exact ⟨p, hp, rfl⟩
  · simp at hq

/-- Later wins: the value under `k'` comes from the LAST input entry whose key is mapped to `k'`. -/
theorem C04_gomap_walk_last_wins (g : String → String) (kvs r : List (String × Val))
    (hv : NoCollideKVs' g kvs) (h : interpUMap (pureTf E g) [] kvs = .ok r) (k' : String) :
    r.lookup k' = (kvs.reverse.find? (fun p => g p.1 == k')).map (fun p => mapVal g p.2) := by
  rw [interpUMap_walk g (mapVal g) kvs [] (interpVal_of_noCollideKVs' g kvs hv)] at h
  injection h with h
  subst h
  exact lookup_umapFold_img g (mapVal g) k' kvs

end GoPipeline.Interp

/-! ### The env-block walker of C10 (`Model/EnvBlock.lean`)

  Its callback reads and writes the caller environment, so it is not a fixed
  `String → V → Except E (String × V)`.  `aRangeReplaceS` is `OMap.aRangeReplace` with a state threaded
  through the callback. -/
namespace GoPipeline.EnvBlock

variable {E : Type}

theorem C10_blockLoop_is_rangeReplaceS (expand : Expand E) (norm : String → String) (prefer : Bool)
    (env : Env) (b : List (String × String)) :
    blockLoop expand norm prefer [] [] env b = aRangeReplaceS (entryStep expand norm prefer) env [] b :=
  blockLoop_is_rangeReplaceS expand norm prefer env b

/-- State-independent renaming: the entries component is `OMap.aRangeReplace`. -/
theorem C10_rangeReplaceS_entries {S V : Type} (f : S → String → V → Except E (String × V × S))
    (f₀ : String → V → Except E (String × V))
    (hf : ∀ s k v, (f s k v).map (fun r => (r.1, r.2.1)) = f₀ k v) (s : S) (done todo : OMap.AMap V) :
    (aRangeReplaceS f s done todo).map (·.1) = OMap.aRangeReplace f₀ done todo :=
  aRangeReplaceS_entries f f₀ hf s done todo

/-- Block component, names pairwise distinct: an `OMap.aRangeReplace` (the walk `C05_rangeReplace`
    proves the concrete map refines) of the pure callback that expands each entry with the caller
    environment `envAt name` prevailing when the cursor reaches it. -/
theorem C10_block_is_rangeReplace (expand : Expand E) (norm : String → String) (prefer : Bool) (env : Env)
    (b : List (String × String)) (hnd : (b.map (·.1)).Nodup) :
    ∃ envAt : String → Env, (∀ p, b.head? = some p → envAt p.1 = env) ∧
      (blockLoop expand norm prefer [] [] env b).map (·.1) =
        OMap.aRangeReplace
          (fun k v => (entryStep expand norm prefer (envAt k) k v).map (fun r => (r.1, r.2.1))) [] b := by
  rw [blockLoop_is_rangeReplaceS]
  exact aRangeReplaceS_as_pure (entryStep expand norm prefer) env [] b hnd

end GoPipeline.EnvBlock

/-! ### Non-vacuity and the six collision shapes of the Go harness -/
namespace GoPipeline.Interp

/-- `${QKEY}`, `$QKEY` ↦ `queue`; `${SKEY}` ↦ `size`; everything else unchanged. -/
def collG : String → String := fun s =>
  if s = "${QKEY}" then "queue" else if s = "$QKEY" then "queue" else if s = "${SKEY}" then "size" else s

-- 1. `[queue, ${QKEY}]`: the later rename drops the earlier entry and keeps its own (only) position
example : interpOMap (pureTf Unit collG) [] [] [("queue", .str "v1"), ("${QKEY}", .str "v2")]
    = .ok [("queue", .str "v2")] := by decide +kernel
-- 2. `[${QKEY}, queue]`: the rename drops the entry ahead, which is then never visited
example : interpOMap (pureTf Unit collG) [] [] [("${QKEY}", .str "v1"), ("queue", .str "v2")]
    = .ok [("queue", .str "v1")] := by decide +kernel
-- 3. `[queue, size, ${QKEY}, ${SKEY}]`
example : interpOMap (pureTf Unit collG) [] []
      [("queue", .str "v1"), ("size", .str "v2"), ("${QKEY}", .str "v3"), ("${SKEY}", .str "v4")]
    = .ok [("queue", .str "v3"), ("size", .str "v4")] := by decide +kernel
-- 4. `[$QKEY, ${QKEY}, queue, size]`: two renames onto the same name, then the dropped original
example : interpOMap (pureTf Unit collG) [] []
      [("$QKEY", .str "v1"), ("${QKEY}", .str "v2"), ("queue", .str "v3"), ("size", .str "v4")]
    = .ok [("queue", .str "v2"), ("size", .str "v4")] := by decide +kernel
-- 5. `[a, ${QKEY}, b, queue, c]`: the renamed entry keeps its position
example : interpOMap (pureTf Unit collG) [] []
      [("a", .str "v1"), ("${QKEY}", .str "v2"), ("b", .str "v3"), ("queue", .str "v4"), ("c", .str "v5")]
    = .ok [("a", .str "v1"), ("queue", .str "v2"), ("b", .str "v3"), ("c", .str "v5")] := by decide +kernel
-- 6. `[queue, x-${QKEY}, ${QKEY}, x-queue]` (`collG` is the identity on the two `x-…` names)
example : interpOMap (pureTf Unit collG) [] []
      [("queue", .str "v1"), ("x-${QKEY}", .str "v2"), ("${QKEY}", .str "v3"), ("x-queue", .str "v4")]
    = .ok [("x-${QKEY}", .str "v2"), ("queue", .str "v3"), ("x-queue", .str "v4")] := by decide +kernel

-- the same through the abstract walk of C05 …
example : OMap.aRangeReplace (omapCb (pureTf Unit collG)) []
      [("$QKEY", .str "v1"), ("${QKEY}", .str "v2"), ("queue", .str "v3"), ("size", .str "v4")]
    = .ok [("queue", .str "v2"), ("size", .str "v4")] := by
  rw [← interpOMap_is_rangeReplace]; decide +kernel

-- … and through the declarative description: who is visited, who survives
example : (visited collG [("$QKEY", Val.str "v1"), ("${QKEY}", .str "v2"), ("queue", .str "v3"), ("size", .str "v4")]).map (·.1)
    = ["$QKEY", "${QKEY}", "size"] := by decide +kernel
example : (survivors collG [("$QKEY", Val.str "v1"), ("${QKEY}", .str "v2"), ("queue", .str "v3"), ("size", .str "v4")]).map (·.1)
    = ["${QKEY}", "size"] := by decide +kernel
example : (survivors collG [("queue", Val.str "v1"), ("${QKEY}", .str "v2")]).map (·.1) = ["${QKEY}"] := by decide +kernel
example : (survivors collG [("${QKEY}", Val.str "v1"), ("queue", .str "v2")]).map (·.1) = ["${QKEY}"] := by decide +kernel
example : (survivors collG [("queue", Val.str "v1"), ("size", .str "v2"), ("${QKEY}", .str "v3"), ("${SKEY}", .str "v4")]).map (·.1)
    = ["${QKEY}", "${SKEY}"] := by decide +kernel
example : (survivors collG [("a", Val.str "v1"), ("${QKEY}", .str "v2"), ("b", .str "v3"), ("queue", .str "v4"), ("c", .str "v5")]).map (·.1)
    = ["a", "${QKEY}", "b", "c"] := by decide +kernel
example : (survivors collG [("queue", Val.str "v1"), ("x-${QKEY}", .str "v2"), ("${QKEY}", .str "v3"), ("x-queue", .str "v4")]).map (·.1)
    = ["x-${QKEY}", "${QKEY}", "x-queue"] := by decide +kernel

-- the hypotheses of the ordered-walk theorems hold on a colliding input
example : NoCollideKVs' collG [("queue", .str "v1"), ("${QKEY}", .str "v2")] := ⟨trivial, trivial, trivial⟩
example : ([("queue", Val.str "v1"), ("${QKEY}", .str "v2")].map (·.1)).Nodup := by decide +kernel

-- distinct input keys are needed for the `survivors` description (the tie to C05 needs nothing): with a repeated
-- key both entries are visited and kept by the model, `lastPerKey` keeps one
example : interpOMap (pureTf Unit collG) [] [] [("a", .str "v1"), ("a", .str "v2")]
    = .ok [("a", .str "v1"), ("a", .str "v2")] := by decide +kernel
example : (survivors collG [("a", Val.str "v1"), ("a", .str "v2")]).map (·.2) = [.str "v2"] := by decide +kernel

-- (iv): injective on the keys, yet an entry is lost (renamed onto a LATER key) …
example : interpOMap (pureTf Unit cexG) [] [] [("a", .str "x"), ("b", .str "y")] = .ok [("b", .str "x")] := by decide +kernel
-- … while the same renames in the other order lose nothing, although `keysFresh` fails
example : interpOMap (pureTf Unit cexG) [] [] [("b", .str "y"), ("a", .str "x")]
    = .ok [("c", .str "y"), ("b", .str "x")] := by decide +kernel
example : ¬ keysFresh cexG ([("b", Val.str "y"), ("a", .str "x")].map (·.1)) := by
  unfold keysFresh; decide +kernel

-- two names of a Go map collide, the later one (in sorted order) wins
example : interpUMap (pureTf Unit collG) [] [("$QKEY", .str "v1"), ("${QKEY}", .str "v2"), ("queue", .str "v3")]
    = .ok [("queue", .str "v3")] := by decide +kernel
example : interpUMap (pureTf Unit collG) [] [("${QKEY}", .str "v1"), ("a", .str "v2")]
    = .ok [("a", .str "v2"), ("queue", .str "v1")] := by decide +kernel

end GoPipeline.Interp
