/-
  C10 — pipeline env block: definition order, runtime precedence, export to the caller.

  The theorems stated on the specification (`specFold`, `specEnvs`) reach the in-place walk through
  `C10_block_is_spec`, that is for collision-free blocks; `C10_error_is_entry_error` and
  `C10_runtime_precedence_walk` are about `blockLoop` itself and hold for every block.
-/
import GoPipeline.Lemmas.EnvBlock
namespace GoPipeline.EnvBlock

variable {E : Type}

/-- Top to bottom: the in-place walk (`Range` + `Replace`) produces exactly the entry-by-entry
    specification — same length and positions, entry i = (expand envᵢ kᵢ, expand envᵢ vᵢ) with envᵢ the
    caller env after entries < i — and hands the same environment back, for collision-free blocks. -/
theorem C10_block_is_spec (expand : Expand E) (norm : String → String) (prefer : Bool) (env envF : Env)
    (b out : List (String × String))
    (h : specFold expand norm prefer env b = .ok (out, envF))
    (hc : NoCollide (b.map (·.1)) (out.map (·.1))) :
    blockLoop expand norm prefer [] [] env b = .ok (out, envF) :=
  block_is_spec_gen expand norm prefer b [] [] env envF out h hc (fun _ h => nomatch h)
    (fun _ _ h => nomatch h)

/-- One output entry per entry of the block, in order. -/
theorem C10_positions_kept (expand : Expand E) (norm : String → String) (prefer : Bool) (env envF : Env)
    (b out : List (String × String)) (h : specFold expand norm prefer env b = .ok (out, envF)) :
    out.length = b.length := specFold_length h

/-- An expansion error aborts the walk with that entry's error (no collision hypothesis needed):
    the error is the error of expanding some entry's name or value under the environment that entry sees. -/
theorem C10_error_is_entry_error (expand : Expand E) (norm : String → String) (prefer : Bool) (env : Env)
    (b : List (String × String)) (e : E)
    (h : blockLoop expand norm prefer [] [] env b = .error e) :
    ∃ kv ∈ b, ∃ env' : Env, (expand (env'.get norm) kv.1 = .error e ∨ expand (env'.get norm) kv.2 = .error e) := by
  obtain ⟨b', hsub, e'⟩ := blockLoop_env_eq_specFold expand norm prefer b [] [] env
  rw [h] at e'
  cases hs : specFold expand norm prefer env b' with
  | ok r => rw [hs] at e'; cases e'
  | error e'' =>
    rw [hs] at e'
    cases e'
    obtain ⟨kv, hm, w⟩ := specFold_error hs
    exact ⟨kv, hsub.subset hm, w⟩

/-- Runtime precedence: with the flag set, every name present in the caller's environment initially
    (under the environment's own name equality) keeps the caller's value in every environment the
    entries are expanded with, and in the environment handed back. -/
theorem C10_runtime_precedence_during (expand : Expand E) (norm : String → String) (env : Env)
    (b : List (String × String)) (name : String) (hp : (env.get norm name).isSome) :
    ∀ env' ∈ specEnvs expand norm true env b, env'.get norm name = env.get norm name :=
  precedence_during expand norm env b name hp

theorem C10_runtime_precedence_after (expand : Expand E) (norm : String → String) (env envF : Env)
    (b out : List (String × String)) (h : specFold expand norm true env b = .ok (out, envF))
    (name : String) (hp : (env.get norm name).isSome) :
    envF.get norm name = env.get norm name := precedence_after expand norm env envF b out h name hp

/-- The environment the in-place walk itself hands back keeps them too, collisions or not. -/
theorem C10_runtime_precedence_walk (expand : Expand E) (norm : String → String) (env envF : Env)
    (b out : List (String × String)) (h : blockLoop expand norm true [] [] env b = .ok (out, envF))
    (name : String) (hp : (env.get norm name).isSome) :
    envF.get norm name = env.get norm name := by
  obtain ⟨b', _, e'⟩ := blockLoop_env_eq_specFold expand norm true b [] [] env
  rw [h] at e'
  cases hs : specFold expand norm true env b' with
  | error e => rw [hs] at e'; cases e'
  | ok r =>
    rw [hs] at e'
    cases e'
    exact precedence_after expand norm env _ b' _ hs name hp

/-- Export to the caller, no runtime precedence: afterwards the caller's environment maps each
    expanded name to its expanded value (distinct names under the environment's name equality). -/
theorem C10_writeback (expand : Expand E) (norm : String → String) (env envF : Env)
    (b out : List (String × String)) (h : specFold expand norm false env b = .ok (out, envF))
    (hd : (out.map (fun p => norm p.1)).Nodup) :
    ∀ p ∈ out, envF.get norm p.1 = some p.2 := fun p hp => by
  simpa using writeback expand norm false env envF b out h hd p hp

/-- Export with runtime precedence: a name the caller already had keeps the caller's value, any other
    name gets the pipeline's value — while the block itself (`out`) records the pipeline's value either way. -/
theorem C10_writeback_prefer (expand : Expand E) (norm : String → String) (env envF : Env)
    (b out : List (String × String)) (h : specFold expand norm true env b = .ok (out, envF))
    (hd : (out.map (fun p => norm p.1)).Nodup) :
    ∀ p ∈ out, envF.get norm p.1 = (if (env.get norm p.1).isSome then env.get norm p.1 else some p.2) :=
  fun p hp => by simpa using writeback expand norm true env envF b out h hd p hp

/-- Names that are not defined by the block and were not in the caller's environment stay undefined;
    names the block does not touch keep their value. -/
theorem C10_untouched_names (expand : Expand E) (norm : String → String) (prefer : Bool) (env envF : Env)
    (b out : List (String × String)) (h : specFold expand norm prefer env b = .ok (out, envF))
    (name : String) (hn : ∀ p ∈ out, norm p.1 ≠ norm name) :
    envF.get norm name = env.get norm name := untouched_names expand norm prefer env envF b out h name hn

/-- Lookups use the environment's own notion of name equality. -/
theorem C10_lookup_by_norm (norm : String → String) (env : Env) (a b : String) (h : norm a = norm b) :
    env.get norm a = env.get norm b := get_congr norm env h

/-! Non-vacuity: a chain with a forward reference, under a toy expander (`$X` alone is a reference). -/
instance : DecidableEq Env := fun a b =>
  match a, b with
  | ⟨x⟩, ⟨y⟩ => if h : x = y then isTrue (by rw [h]) else isFalse (fun h' => h (by cases h'; rfl))

instance {ε α : Type} [DecidableEq ε] [DecidableEq α] : DecidableEq (Except ε α) := fun a b =>
  match a, b with
  | .ok x, .ok y => if h : x = y then isTrue (by rw [h]) else isFalse (fun h' => h (by cases h'; rfl))
  | .error x, .error y =>
    if h : x = y then isTrue (by rw [h]) else isFalse (fun h' => h (by cases h'; rfl))
  | .ok _, .error _ => isFalse (fun h => by cases h)
  | .error _, .ok _ => isFalse (fun h => by cases h)

def toyExpand : Expand Unit := fun lookup s =>
  if s.startsWith "$" then .ok ((lookup (s.drop 1).toString).getD "") else .ok s

example : specFold toyExpand id false ⟨[("HOME", "/root")]⟩ [("A", "$HOME"), ("B", "$A"), ("C", "$D"), ("D", "x")]
    = .ok ([("A", "/root"), ("B", "/root"), ("C", ""), ("D", "x")],
           ⟨[("HOME", "/root"), ("A", "/root"), ("B", "/root"), ("C", ""), ("D", "x")]⟩) := by
  -- plain `decide` gets stuck on `String.startsWith` (elaborator whnf); the kernel evaluates it
  decide +kernel

end GoPipeline.EnvBlock
