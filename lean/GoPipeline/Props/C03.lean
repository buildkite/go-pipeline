/-
  C03 — parse then marshal yields the documented normal form with no data loss.
  The lemmas the proofs rest on are in `GoPipeline/Lemmas/Parse03.lean`.
  Known gaps kept visible: both `command` and `commands` present (finding F7: `command` is dropped);
  unknown keys inside `signature` (no inline catch-all there).
-/
import GoPipeline.Lemmas.Parse03
import GoPipeline.Lemmas.ValEq
namespace GoPipeline.Parse
open GoPipeline GoPipeline.Pipe GoPipeline.Marshal GoPipeline.Unm

/-- A bare step list becomes `steps` (and nothing else). -/
theorem C03_bare_list_becomes_steps (xs : List Val) (p : Pipeline) (ws : List Warn) (j : Val)
    (h : parsePipeline (.seq xs) = .ok (p, ws)) (hj : mPipeline p = .ok j) :
    ∃ js, j = .umap [("steps", .seq js)] ∧ js.length = xs.length := by
  obtain ⟨ss, ws', hp, rfl⟩ := parsePipeline_seq h
  unfold mPipeline at hj
  cases hm : mSteps ss with
  | error e => simp [hm, Except.map] at hj
  | ok js =>
    simp only [hm, Except.map, Except.ok.injEq] at hj
    refine ⟨js, ?_, ?_⟩
    · rw [← hj]
      simp [inlineFriendly, Marshal.umapOf, Marshal.umapInsert]
    · rw [mSteps_length ss js hm, parseSteps_length _ xs ss ws' hp]

/-- `command` / `commands` collapse into one newline-joined `command` (scalars stringified). -/
theorem C03_command_join (m : Entries) (c : CommandStep) (h : parseCommand m = .ok c) (v : Val)
    (hv : m.lookup "commands" = some v ∨ (m.lookup "commands" = none ∧ m.lookup "command" = some v)) :
    ∃ l, strsOf v = .ok l ∧ c.command = joinLines (l.getD []) := command_join m c h v hv

theorem C03_no_command_key (m : Entries) (c : CommandStep) (h : parseCommand m = .ok c)
    (h1 : m.lookup "commands" = none) (h2 : m.lookup "command" = none) : c.command = "" := no_command_key m c h h1 h2

/-- `name` fills `label` only when `label` is absent … -/
theorem C03_label_from_name (m : Entries) (c : CommandStep) (h : parseCommand m = .ok c) (v : Val)
    (hl : m.lookup "label" = none) (hn : m.lookup "name" = some v) : strOf v = .ok c.label := label_from_name m c h v hl hn

/-- … otherwise `label` is the label and `name` stays where it was (an unknown key). -/
theorem C03_label_primary (m : Entries) (c : CommandStep) (h : parseCommand m = .ok c) (v : Val)
    (hl : m.lookup "label" = some v) (hm : (keysOf m).Nodup) :
    strOf v = .ok c.label ∧ (c.rem.getD []).lookup "name" = m.lookup "name" := label_primary m c h v hl hm

/-- `id` / `identifier` fill `key` only when `key` is absent, `id` first. -/
theorem C03_key_from_aliases (m : Entries) (c : CommandStep) (h : parseCommand m = .ok c)
    (hk : m.lookup "key" = none) :
    (∀ v, m.lookup "id" = some v → strOf v = .ok c.key) ∧
    (∀ v, m.lookup "id" = none → m.lookup "identifier" = some v → strOf v = .ok c.key) ∧
    (m.lookup "id" = none → m.lookup "identifier" = none → c.key = "") := key_from_aliases m c h hk

/-- Every other key of a command step appears in the marshalled step exactly once (it is a Go map)
    with its input value, unchanged. -/
theorem C03_command_other_keys_preserved (m : Entries) (c : CommandStep) (h : parseCommand m = .ok c)
    (hm : (keysOf m).Nodup) (k : String) (hk : k ∉ commandKeys) :
    ∃ kvs, mCommand c = .umap kvs ∧ kvs.lookup k = m.lookup k ∧ (kvs.map (·.1)).Nodup :=
  command_other_keys_preserved m c h hm k hk

/-- Wait / input / trigger steps written as mappings keep every key and value. -/
theorem C03_contents_steps_preserved (m : Entries) (hm : (keysOf m).Nodup) (hne : m ≠ []) (k : String) :
    (∃ kvs, mStep (.wait "" (some (umapOf m))) = .ok (.umap kvs) ∧ kvs.lookup k = m.lookup k) ∧
    (∃ kvs, mStep (.input "" (some (umapOf m))) = .ok (.umap kvs) ∧ kvs.lookup k = m.lookup k) ∧
    (∃ kvs, mStep (.trigger (some (umapOf m))) = .ok (.umap kvs) ∧ kvs.lookup k = m.lookup k) := by
  have hl : (umapOf m).length ≠ 0 := by
    intro e
    exact umapOf_ne_nil hne (List.length_eq_zero_iff.1 e)
  have hk := lookup_umapOf_nodup hm k
  refine ⟨⟨umapOf m, ?_, hk⟩, ⟨umapOf m, ?_, hk⟩, ⟨umapOf m, ?_, hk⟩⟩
  · simp [mStep_wait, lenUMap, hl, umapV]
  · simp [mStep_input, lenUMap, hl, umapV]
  · simp [mStep_trigger, umapV]

/-- Scalar-step shorthands and unknown steps are emitted verbatim. -/
theorem C03_scalar_and_unknown_verbatim (s : String) (v : Val) (hs : s ≠ "") :
    mStep (.wait s none) = .ok (.str s) ∧ mStep (.input s none) = .ok (.str s) ∧ mStep (.unknown v) = .ok v := by
  -- `simp [mStep]` cannot be used: Lean fails to generate the equation lemmas of `mStep`; the
  -- per-constructor equations are proved by `rfl` in `Lemmas/ParseEqns.lean`.
  simp [mStep_wait, mStep_input, mStep_unknown, hs]

/-- Plugins (list of strings, list of single-entry objects, or one mapping) become an ordered list of
    single-entry objects keyed by canonical source, configs `ToMapRecursive`d with empty ⇒ null. -/
theorem C03_plugins_normal_form (v : Val) (l : List (Option Plugin)) (h : parsePlugins v = .ok (some l)) :
    mPlugins l = .seq (l.map fun
      | some p => Val.umap [(fullSource p.source,
          match p.config with | .umap [] => Val.null | .seq [] => .null | c => c)]
      | none => .null) ∧ ∀ p ∈ l, p ≠ none := plugins_normal_form v l h

theorem C03_plugins_order_from_mapping (kvs : List (String × Val)) (hne : kvs ≠ []) :
    parsePlugins (.omap kvs) = .ok (some (kvs.map fun (k, v) => some { source := k, config := toMapRec v })) :=
  plugins_from_mapping kvs hne

/-- Pipeline env scalars become strings, in document order. -/
theorem C03_env_scalars_become_strings (kvs : List (String × Val)) (l : List (String × String))
    (h : parseEnvOrdered (.omap kvs) = .ok (some l)) :
    List.Forall₂ (fun kv e => e.1 = kv.1 ∧ strOf kv.2 = .ok e.2) kvs l := env_scalars_strings kvs l h

/-- A matrix written as a list takes its canonical shape. -/
theorem C03_matrix_list_shorthand (xs : List Val) (m : Matrix) (h : parseMatrix (.seq xs) = .ok (some m)) (hne : xs ≠ []) :
    ∃ l, strsOfSeq xs = .ok l ∧ mMatrix m = strsV l := by
  simp only [parseMatrix, map_ok_iff, Option.some.injEq] at h
  obtain ⟨l, hl, rfl⟩ := h
  refine ⟨l, hl, ?_⟩
  have hlen := strsElems_length xs l hl
  cases l with
  | nil =>
    exfalso
    exact hne (List.length_eq_zero_iff.1 hlen.symm)
  | cons a t => simp [mMatrix, isSimple, lenUMap, mSetup]

/-- The cache shorthands take their canonical shapes. -/
theorem C03_cache_shorthands (s : String) (xs : List Val) :
    (∃ c, parseCache (.str s) = .ok (some c) ∧ mCache c = .umap [("paths", strsV [s])]) ∧
    (∃ c, parseCache (.bool false) = .ok (some c) ∧ mCache c = .bool false) ∧
    (∀ l, strsOfSeq xs = .ok l → l ≠ [] → ∃ c, parseCache (.seq xs) = .ok (some c) ∧ mCache c = .umap [("paths", strsV l)]) := by
  refine ⟨⟨_, rfl, ?_⟩, ⟨_, rfl, ?_⟩, fun l hl hne => ?_⟩
  · simp [mCache, inlineFriendly, Marshal.umapOf, Marshal.umapInsert]
  · simp [mCache]
  · refine ⟨{ disabled := false, name := "", paths := some l, size := "", rem := none }, ?_, ?_⟩
    · simp only [parseCache, hl]; rfl
    · have : l.isEmpty = false := by simpa using hne
      simp [mCache, inlineFriendly, Marshal.umapOf, Marshal.umapInsert, this]

/-! Non-vacuity -/
example : ∃ c, parseCommand [("name", .str "n"), ("commands", .seq [.str "a", .int 2]), ("agents", .omap [("q", .str "x")]), ("id", .str "i")] = .ok c ∧
    c.label = "n" ∧ c.key = "i" ∧ c.command = "a\n2" := by decide +kernel

end GoPipeline.Parse
