/-
  C07 — YAML anchors, aliases and merges resolve per the merge rules; cycles error out.
  (C08's order corollaries about decoded mappings are at the end.)
  The proofs that take more than unfolding are in `Lemmas/Yaml.lean` and `Lemmas/YamlMerge.lean`.
-/
import GoPipeline.Lemmas.YamlMerge
namespace GoPipeline.Yaml
open GoPipeline

/-! ### Bounded recursion: no hang, no stack overflow -/

/-- With the fuel `bound s` of `decodeYAML` the model never runs out: every call chain of `decode` adds a fresh
    node to `seen`, every call chain of the merge walk adds a fresh node to `merged`, so the nesting depth is
    at most the number of nodes (this is what bounds Go's recursion depth), and every list walked at one
    level has at most `maxList s` elements.  Neither the hypothesis nor the size of the bound is spare
    (counterexamples in `Lemmas/Yaml.lean`):
    * `AliasFlat s` (the target of an alias node is not an alias node) holds of every graph yaml.v3 builds,
      since an alias cannot carry an anchor.  Without it the statement is false: `canonicalMapKey` follows
      alias → alias chains with no cycle detection, so on the hand-built graph `aliasLoopStore` (`{*a: v}`
      with `*a` its own target) Go recurses forever and the model returns `.error .fuel` for every fuel
      (`aliasLoop_counterexample`).
    * The smaller bound `(|store|+2)·(maxContent+3)` does not suffice for the *model* (not a Go defect:
      `decodePairs` spends one unit of fuel per yielded pair, and with merges the yielded list is longer
      than any content list): `oldBound_counterexample` is a 53-node acyclic document on which it runs out.
      Results other than `.error .fuel` do not depend on the bound. -/
theorem C07_decode_total (s : Store) (root : Nat) (h : AliasFlat s) : decodeYAML s root ≠ .error .fuel :=
  decode_total s root h

theorem C07_rangeMap_total (s : Store) (i : Nat) (h : AliasFlat s) : rangeMap s (bound s) i ≠ .error .fuel :=
  rangeMap_total s i h

/-! ### Value cycles are errors; merge cycles are tolerated -/

/-- A node that is its own ancestor on the current decoding path is rejected with the recursion error. -/
theorem C07_cycle_detected (s : Store) (f : Nat) (seen : List Nat) (i : Nat) (h : i ∈ seen) :
    decode s (f + 1) seen (some i) = .error .recursion := by
  simp [decode, h]

/-- Aliases as values: an alias node decodes to whatever its target decodes to — so every alias
    expands to a full copy of the anchored subtree (two aliases of one anchor give equal, independent values). -/
theorem C07_alias_is_copy (s : Store) (f : Nat) (seen : List Nat) (i t : Nat) (n : NodeRec)
    (hn : s[i]? = some n) (hk : n.kind = .alias) (ht : n.aliasTo = some t) (hi : i ∉ seen) :
    decode s (f + 2) seen (some i) = decode s (f + 1) (i :: seen) (some t) := by
  rw [decode]
  simp [hi, hn, hk, ht]

/-- A mapping already merged into the mapping being ranged is skipped silently: merge cycles terminate
    without error. -/
theorem C07_merge_cycle_tolerated (s : Store) (f : Nat) (levels : List (List String)) (st : RangeSt) (i : Nat)
    (h : i ∈ st.merged) : rangeImpl s (f + 1) levels st (some i) = .ok (levels, st) := by
  simp [rangeImpl, h]

/-- The merge walk never reports a recursion error, whatever the graph. -/
theorem C07_merge_walk_no_recursion_error (s : Store) (f : Nat) (i : Nat) :
    rangeMap s f i ≠ .error .recursion := rangeMap_no_recursion s f i

/-! ### Merge rules -/

/-- For every mapping whose merge graph the specification can unfold (i.e. it is acyclic), the walk yields
    exactly the content the YAML merge specification prescribes — keys, value nodes and order:
    explicit pairs where written, merged keys at the position of the merge key in first-contribution
    order, explicit keys beating merged ones, earlier sources beating later ones; the `merged`
    de-duplication does not change the result.  (No `AliasFlat` needed: when the specification unfolds,
    every alias chain the walk follows terminates, and the fuel `bound s` is shown to suffice.) -/
theorem C07_merge_is_spec (s : Store) (f : Nat) (i : Nat) (ps : List (String × Nat))
    (h : specContent s f i = .ok ps) : rangeMap s (bound s) i = .ok ps := by
  obtain ⟨hh, hd⟩ := specContent_den s f i ps h
  cases f with
  | zero => simp [specContent] at h
  | succ f =>
    simp only [specContent] at h
    obtain ⟨n, hs, h⟩ := node_ok h
    cases hk : n.kind <;> simp only [hk] at h <;> try (simp at h; done)
    exact (rangeMap_den s hh i (bound s) n ps hs hk hd).resolve_left
      (map_ne_error ((range_total (walkable_den s) _).1 _ _ _ ⟨hh, ps, hd⟩ (need_le_bound s)))

/-- Explicit keys beat merged keys: a key written explicitly in the mapping is yielded exactly where it is
    written, with its own value node. -/
theorem C07_explicit_beats_merged (have_ : List String) (out src : List (String × Nat)) (k : String)
    (hk : k ∈ have_) : ∀ p ∈ (mergeInto have_ out src).2, p ∈ out ∨ p.1 ≠ k := by
  rw [mergeInto_eq]
  intro p hp
  refine (List.mem_append.mp hp).imp_right fun hf he => ?_
  exact (mem_keys_fresh.mp (List.mem_map_of_mem (f := (·.1)) hf)).2 (he ▸ hk)

/-- Earlier merge sources beat later ones: merging a further source only appends to what has been yielded
    and never forgets a key the mapping already has. -/
theorem C07_earlier_beats_later (have_ : List String) (out src : List (String × Nat)) :
    out <+: (mergeInto have_ out src).2 ∧ ∀ k ∈ have_, k ∈ (mergeInto have_ out src).1 := by
  rw [mergeInto_eq]
  exact ⟨List.prefix_append _ _, fun k hk => List.mem_append_right _ hk⟩

/-! ### Keys -/

/-- An alias used as a mapping key is canonicalised through its target. -/
theorem C07_alias_key (s : Store) (f : Nat) (i t : Nat) (n : NodeRec) (hn : s[i]? = some n)
    (hk : n.kind = .alias) (ht : n.aliasTo = some t) :
    canonicalKey s (f + 1) i = canonicalKey s f t := by simp [canonicalKey, hn, hk, ht]

/-- Null (or undecodable) keys and non-scalar keys are errors. -/
theorem C07_bad_key (s : Store) (f : Nat) (i : Nat) (n : NodeRec) (hn : s[i]? = some n)
    (h : (n.kind = .scalar ∧ n.keyStr = none) ∨ (n.kind ≠ .scalar ∧ n.kind ≠ .alias)) :
    ∃ e, canonicalKey s (f + 1) i = .error e := by
  rcases h with ⟨hk, hs⟩ | ⟨h1, h2⟩
  · exact ⟨.other, by simp [canonicalKey, hn, hk, hs]⟩
  · exact ⟨.other, by simp only [canonicalKey, hn]⟩

/-! ### C08: decoded mappings keep document order -/

/-- The decoded mapping lists its keys in the order the walk yielded them (first occurrence of each key):
    document order, with merged keys standing where the merge key stood. -/
theorem C08_decoded_key_order (s : Store) (f : Nat) (seen : List Nat) (ps : List (String × Nat))
    (acc : List (String × Val)) (h : decodePairs s f seen ps [] = .ok acc) :
    acc.map (·.1) = (ps.map (·.1)).eraseDups := decoded_key_order s f seen ps acc h

/-! Non-vacuity: `base: &b {x: 1, y: 2}`, `m: {<<: *b, y: 3, z: 4}`. -/
def exStore : Store :=
  [ /-0 doc-/ { kind := .document, isMerge := false, content := [1] },
    /-1 top-/ { kind := .mapping, isMerge := false, content := [2, 3, 8, 9] },
    /-2-/ { kind := .scalar, isMerge := false, decoded := some (.str "base"), keyStr := some "base" },
    /-3 &b-/ { kind := .mapping, isMerge := false, content := [4, 5, 6, 7] },
    /-4-/ { kind := .scalar, isMerge := false, decoded := some (.str "x"), keyStr := some "x" },
    /-5-/ { kind := .scalar, isMerge := false, decoded := some (.int 1), keyStr := some "1" },
    /-6-/ { kind := .scalar, isMerge := false, decoded := some (.str "y"), keyStr := some "y" },
    /-7-/ { kind := .scalar, isMerge := false, decoded := some (.int 2), keyStr := some "2" },
    /-8-/ { kind := .scalar, isMerge := false, decoded := some (.str "m"), keyStr := some "m" },
    /-9 m-/ { kind := .mapping, isMerge := false, content := [10, 11, 6, 12, 13, 14] },
    /-10 <<-/ { kind := .scalar, isMerge := true, decoded := some (.str "<<"), keyStr := some "<<" },
    /-11 *b-/ { kind := .alias, isMerge := false, aliasTo := some 3 },
    /-12-/ { kind := .scalar, isMerge := false, decoded := some (.int 3), keyStr := some "3" },
    /-13-/ { kind := .scalar, isMerge := false, decoded := some (.str "z"), keyStr := some "z" },
    /-14-/ { kind := .scalar, isMerge := false, decoded := some (.int 4), keyStr := some "4" } ]

example : rangeMap exStore (bound exStore) 9 = .ok [("x", 5), ("y", 12), ("z", 14)] := by decide
example : specContent exStore 20 9 = .ok [("x", 5), ("y", 12), ("z", 14)] := by decide

end GoPipeline.Yaml
