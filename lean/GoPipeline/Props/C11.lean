/-
  C11 — matrix permutation validation equals the matrix specification.
-/
import GoPipeline.Lemmas.MatrixValidate
namespace GoPipeline.MatrixV

/-- Accepted exactly when the specification accepts, for all matrices and permutations
    (Go maps as entry lists in any order with distinct keys). -/
theorem C11_validate_iff (m : Option Matrix) (p : List (String × String)) (wf : WF m p) :
    validate m p = .ok () ↔ accept m p := validate_iff m p wf

/-- No matrix: only the empty permutation is accepted. -/
theorem C11_nil_matrix (p : List (String × String)) : validate none p = .ok () ↔ p = [] :=
  validate_none_iff p

/-- The verdict does not depend on any Go map iteration order: permuting the entries of the
    permutation, of the setup, and of every adjustment tuple leaves acceptance unchanged
    (only *which* error is reported may differ). -/
theorem C11_order_independent (m m' : Matrix) (p p' : List (String × String))
    (wf : WF (some m) p)
    (hp : p'.Perm p) (hs : m'.setup.Perm m.setup)
    (ha : List.Forall₂ (fun x' x => match x', x with
            | some a', some a => a'.with_.Perm a.with_ ∧ a'.skip = a.skip
            | none, none => True
            | _, _ => False) m'.adjustments m.adjustments) :
    validate (some m') p' = .ok () ↔ validate (some m) p = .ok () := by
  rw [validate_iff _ _ (wf_perm m m' p p' wf hp hs ha), validate_iff _ _ wf]
  exact accept_perm m m' p p' wf hp hs ha

/-- `ShouldSkip`: absent or false ⇒ no; true, any string or any other value ⇒ yes. -/
theorem C11_shouldSkip_table :
    shouldSkip .absent = false ∧ shouldSkip (.bool false) = false ∧
    shouldSkip (.bool true) = true ∧ shouldSkip .other = true := by decide

/-- A malformed adjustment (wrong set of dimensions) makes every permutation be rejected. -/
theorem C11_malformed_adjustment_rejects (m : Matrix) (p : List (String × String)) (wf : WF (some m) p)
    (a : Adj) (ha : some a ∈ m.adjustments) (hbad : ¬ adjWellFormed m a) :
    validate (some m) p ≠ .ok () := by
  intro h
  obtain ⟨a', ha', hw⟩ := ((validate_iff (some m) p wf).mp h).adjs_wf (some a) ha
  cases ha'
  exact hbad hw

/-- A null entry in the adjustments list makes every permutation be rejected (and nothing panics:
    `validate` is a total function). -/
theorem C11_null_adjustment_rejects (m : Matrix) (p : List (String × String)) (wf : WF (some m) p)
    (ha : none ∈ m.adjustments) : validate (some m) p ≠ .ok () := by
  intro h
  obtain ⟨a', ha', _⟩ := ((validate_iff (some m) p wf).mp h).adjs_wf none ha
  cases ha'

/-- A permutation equal to the tuple of an adjustment marked skip is rejected, even if it is
    also a combination of setup values or matches another, non-skipped adjustment. -/
theorem C11_skip_rejects (m : Matrix) (p : List (String × String)) (wf : WF (some m) p)
    (a : Adj) (ha : some a ∈ m.adjustments) (heq : adjEquals a p) (hskip : shouldSkip a.skip = true) :
    validate (some m) p ≠ .ok () := by
  intro h
  have := ((validate_iff (some m) p wf).mp h).not_skipped ha heq
  simp [hskip] at this

/-- A rejected permutation leaves the step unmodified. -/
theorem C11_rejected_unchanged {S E : Type} (interp : List (String × String) → S → S × Option E)
    (m : Option Matrix) (p : List (String × String)) (s : S) (e : Err) (h : validate m p = .error e) :
    interpolateMatrixPermutation interp m p s = (s, some (.inl e)) := by
  simp [interpolateMatrixPermutation, h]

/-- The empty permutation changes nothing. -/
theorem C11_empty_perm_unchanged {S E : Type} (interp : List (String × String) → S → S × Option E)
    (m : Option Matrix) (s : S) : (interpolateMatrixPermutation interp m [] s).1 = s := by
  unfold interpolateMatrixPermutation
  split <;> simp

/-- Interpolation only runs for an accepted, non-empty permutation. -/
theorem C11_interp_only_if_accepted {S E : Type} (interp : List (String × String) → S → S × Option E)
    (m : Option Matrix) (p : List (String × String)) (s : S) (wf : WF m p)
    (h : (interpolateMatrixPermutation interp m p s).1 ≠ s) : accept m p ∧ p ≠ [] := by
  unfold interpolateMatrixPermutation at h
  cases hv : validate m p with
  | error e => simp [hv] at h
  | ok u =>
    refine ⟨(validate_iff m p wf).1 hv, ?_⟩
    rintro rfl
    simp [hv] at h

/-- Core has no `DecidableEq (Except ε α)`; the examples below need one. -/
instance instDecidableEqExcept {ε α : Type} [DecidableEq ε] [DecidableEq α] :
    DecidableEq (Except ε α)
  | .ok a, .ok b => if h : a = b then isTrue (by rw [h]) else isFalse (fun e => h (by cases e; rfl))
  | .error a, .error b =>
    if h : a = b then isTrue (by rw [h]) else isFalse (fun e => h (by cases e; rfl))
  | .ok _, .error _ => isFalse (fun e => by cases e)
  | .error _, .ok _ => isFalse (fun e => by cases e)

/-! Non-vacuity: a two-dimension matrix with an adjustment adding a new value and a skip. -/
def exM : Matrix :=
  { setup := [("os", some ["linux", "mac"]), ("arch", some ["arm", "x86"])],
    adjustments := [ some { with_ := [("os", "windows"), ("arch", "x86")], skip := .absent },
                     some { with_ := [("arch", "arm"), ("os", "mac")], skip := .other } ] }

example : validate (some exM) [("arch", "x86"), ("os", "windows")] = .ok () := by decide +kernel
example : validate (some exM) [("os", "mac"), ("arch", "arm")] = .error .skipped := by decide +kernel
example : validate (some exM) [("os", "linux"), ("arch", "arm")] = .ok () := by decide +kernel
example : validate (some exM) [("os", "linux")] = .error .permLen := by decide +kernel
example : WF (some exM) [("arch", "x86"), ("os", "windows")] := by
  constructor
  · decide +kernel
  · intro mm h; cases h; decide +kernel
  · intro mm h a ha; cases h
    simp only [exM, List.mem_cons, List.not_mem_nil, or_false, Option.some.injEq] at ha
    rcases ha with rfl | rfl <;> decide +kernel

end GoPipeline.MatrixV
