/-
  C02 on structurally well-formed steps — the signed round trip without the parser hypothesis (JSON leg, model
  level).  The lemmas behind the statements are in `GoPipeline/Lemmas/StepOK.lean`.

  `Props/C02.lean` states the round trip (sign, marshal, re-read, re-parse, verify) for steps that `parseStep`
  produced.  The library also signs pipelines that were interpolated after parsing or built through the Go
  API, and finding F21 shows that such a step can fail the round trip.  Here the hypothesis "in the image of
  the parser" is replaced by the structural predicate `StepOK` on the typed step tree:

    parser image ⊆ StepOK                         (C02_parser_image_is_ok)
    StepOK ∧ Stable ⇒ signed round trip verifies  (C02_signed_tree_…_ok, C02_signed_list_…_ok)
    CommandOK is kept by env interpolation as long as the transformer fixes the keys of the step's inline
    remainders                                    (C02_interpolated_command_stays_ok)
    parse, interpolate, sign, marshal, re-read, re-parse ⇒ verifies   (C02_interpolate_then_sign_command)

  `StepOK` (Lemmas/StepOK.lean): a command step is `CommandOK` (sorted Go maps, decoded content without Go
  maps, plugin configs that are `ToMapRecursive` images, NO UNKNOWN KEY EQUAL TO A DECLARED KEY) and its unknown
  fields do not redirect the kind selection; a wait / input / trigger step holds a scalar or contents that
  select its own kind; a group step has a well-formed remainder, contents that select the group kind and a
  present, well-formed nested list; an unknown step holds decoded content (signing refuses it anyway).
  `stepDepth` is the parser fuel the tree needs (one level per group nesting).

  `KeysFixed tf c`: the transformer maps every TOP-LEVEL key of the step's four kinds of inline remainder (the
  step's unknown fields, the cache's, the matrix's, each adjustment's) to itself.  Nothing else is needed: env
  names, `with` names, setup dimension names, keys inside plugin configs and keys nested inside remainder values
  may be rewritten freely (Go-map walks re-insert into a fresh sorted map, ordered-map walks keep decoded content
  decoded).  The sharp condition is `KeysSafe` (no such key is sent to a declared key of its struct;
  `interpCommand_ok_safe`).
-/
import GoPipeline.Lemmas.StepOK
import GoPipeline.Lemmas.ValEq
import GoPipeline.Props.C02   -- `cF21`, `Example.*`, and through it `toyScheme`
namespace GoPipeline.SignedRT
open GoPipeline GoPipeline.Pipe GoPipeline.Parse GoPipeline.Marshal GoPipeline.Signing GoPipeline.Roundtrip

variable (S : SigScheme)

/-! ### The parser's image is well-formed -/

/-- Every step the parser produces satisfies the structural predicate, and the fuel that parsed it bounds its
    depth. -/
theorem C02_parser_image_is_ok (f : Nat) (x : Val) (s : Step) (w : List Warn) (hx : NoUMap x) (hd : KeysNodup x)
    (h : parseStep f x = .ok (s, w)) : StepOK s ∧ stepDepth s ≤ f :=
  parseStep_stepOK f x s w hx hd h

theorem C02_parser_image_is_ok_list (f : Nat) (xs : List Val) (ss : List Step) (ws : List Warn)
    (hx : NoUMapList xs) (hd : KeysNodupList xs) (h : parseSteps f xs = .ok (ss, ws)) :
    StepsOK ss ∧ stepsDepth ss ≤ f :=
  parseSteps_stepsOK f xs ss ws hx hd h

/-! ### The signed round trip for every well-formed step tree -/

/-- For EVERY typed step tree that is structurally well-formed (parsed, interpolated or built through the API):
    after `SignSteps`, marshalling and re-parsing with enough fuel, every command step of the result carries a
    verifying signature. -/
theorem C02_signed_tree_verifies_after_roundtrip_ok (render : S.Sig → String) (parseSig : String → Option S.Sig)
    (hrender : ∀ s, parseSig (render s) = some s)
    (s : Step) (hok : StepOK s) (hs : StableStep s) (f : Nat) (hf : stepDepth s ≤ f)
    (k : S.Key) (alg repo : String) (penv env₁ : List (String × String)) (henv : EnvExtends penv env₁)
    (signed : Step) (hsign : signStep S render k alg repo penv s = .ok signed) :
    ∃ j s' w', mStep signed = .ok j ∧ parseStep f (rereadJ j) = .ok (s', w') ∧
      VerifiesAll S parseSig (S.pubOf k) repo env₁ s' :=
  signed_steps_roundtrip_ok S render parseSig k alg repo penv env₁ hrender s hok hs f hf henv signed hsign

theorem C02_signed_list_verifies_after_roundtrip_ok (render : S.Sig → String) (parseSig : String → Option S.Sig)
    (hrender : ∀ s, parseSig (render s) = some s)
    (l : List Step) (hok : StepsOK l) (hs : StableSteps l) (f : Nat) (hf : stepsDepth l ≤ f)
    (k : S.Key) (alg repo : String) (penv env₁ : List (String × String)) (henv : EnvExtends penv env₁)
    (l' : List Step) (hsign : signSteps S render k alg repo penv l = .ok l') :
    ∃ js ss' ws', mSteps l' = .ok js ∧ parseSteps f (rereadJList js) = .ok (ss', ws') ∧
      VerifiesAllList S parseSig (S.pubOf k) repo env₁ ss' :=
  signed_list_roundtrip_ok S render parseSig k alg repo penv env₁ hrender l hok hs f hf henv l' hsign

/-! ### Interpolation -/

/-- Env interpolation keeps a command step well-formed when the transformer fixes the keys of its inline
    remainders (no further hypothesis: none on plugin sources or configs, env names, matrix names). -/
theorem C02_interpolated_command_stays_ok {E : Type} (tf : String → Except E String) (c c₁ : CommandStep)
    (hok : CommandOK c) (h : Interp.interpCommand .env tf c = .ok c₁) (hfix : KeysFixed tf c) : CommandOK c₁ :=
  interpCommand_ok tf c c₁ hok h hfix

/-- Parse, interpolate, sign, marshal, re-read, re-parse: the embedded signature verifies. -/
theorem C02_interpolate_then_sign_command {E : Type} (render : S.Sig → String) (parseSig : String → Option S.Sig)
    (hrender : ∀ s, parseSig (render s) = some s)
    (m : Unm.Entries) (c c₁ : CommandStep) (hm : NoUMapKVs m) (h : parseCommand m = .ok c)
    (tf : String → Except E String) (hi : Interp.interpCommand .env tf c = .ok c₁) (hfix : KeysFixed tf c)
    (hs : StableCommand c₁)
    (k : S.Key) (alg repo : String) (penv env₁ : List (String × String)) (henv : EnvExtends penv env₁) :
    ∃ kvs c', rereadJ (mCommand (attach S render (sign S k alg c₁ repo penv) c₁)) = .omap kvs ∧
      parseCommand kvs = .ok c' ∧
      c'.signature = (attach S render (sign S k alg c₁ repo penv) c₁).signature ∧
      StepVerifies S parseSig (S.pubOf k) repo env₁ c' :=
  let ⟨kvs, c', h1, h2, h3, h4, _⟩ :=
    signed_command_core S render parseSig hrender c₁ (interpCommand_ok tf c c₁ (parseCommand_inv hm h) hi hfix) hs
      k alg repo penv env₁ henv
  ⟨kvs, c', h1, h2, h3, h4⟩

/-- The step-level version: the interpolated step is still SELECTED as a command step, provided the transformer
    also keeps the value of the unknown field `type` if there is one (its key is kept by `KeysFixed`). -/
theorem C02_interpolated_command_step_stays_ok {E : Type} (tf : String → Except E String) (c c₁ : CommandStep)
    (hok : StepOK (.command c)) (h : Interp.interpCommand .env tf c = .ok c₁) (hfix : KeysFixed tf c)
    (htype : ∀ s, (c.rem.getD []).lookup "type" = some (.str s) → tf s = .ok s) : StepOK (.command c₁) :=
  interpCommand_stepOK tf c c₁ hok h hfix htype

/-- Parse a step, interpolate it, sign it, marshal, re-read, re-parse with `parseStep` (kind selection
    included): every command step of the result verifies. -/
theorem C02_interpolate_then_sign_step {E : Type} (render : S.Sig → String) (parseSig : String → Option S.Sig)
    (hrender : ∀ s, parseSig (render s) = some s)
    (f : Nat) (x : Val) (c c₁ : CommandStep) (w : List Warn) (hx : NoUMap x) (hd : KeysNodup x)
    (h : parseStep f x = .ok (.command c, w))
    (tf : String → Except E String) (hi : Interp.interpCommand .env tf c = .ok c₁) (hfix : KeysFixed tf c)
    (htype : ∀ s, (c.rem.getD []).lookup "type" = some (.str s) → tf s = .ok s)
    (hs : StableCommand c₁)
    (k : S.Key) (alg repo : String) (penv env₁ : List (String × String)) (henv : EnvExtends penv env₁) :
    ∃ j s' w', mStep (.command (attach S render (sign S k alg c₁ repo penv) c₁)) = .ok j ∧
      parseStep f (rereadJ j) = .ok (s', w') ∧ VerifiesAll S parseSig (S.pubOf k) repo env₁ s' := by
  obtain ⟨hok, hdep⟩ := parseStep_stepOK f x _ w hx hd h
  have hok₁ := interpCommand_stepOK tf c c₁ hok hi hfix htype
  have hdep₁ : stepDepth (.command c₁) ≤ f := by
    simp only [stepDepth] at hdep ⊢
    exact hdep
  exact signed_steps_roundtrip_ok S render parseSig k alg repo penv env₁ hrender (.command c₁) hok₁
    (by rw [StableStep]; exact hs) f hdep₁ henv _ (Signing.signStep_command S render k alg repo penv c₁)

/-! ### `StepOK` is strictly larger than the parser's image -/

/-- An empty wait step built through the API is well-formed but never produced by the parser. -/
theorem C02_ok_strictly_larger_than_parser_image :
    StepOK (.wait "" none) ∧ ∀ f x w, parseStep f x ≠ .ok (.wait "" none, w) :=
  ⟨stepOK_wait_empty, wait_empty_not_parsed⟩

/-- The F21 step (`Props/C02.lean`: its unknown fields hold the key `plugins`) is exactly what the predicate
    excludes. -/
example : ¬ CommandOK cF21 := by
  intro h
  have := h.rem.prim' (k := "plugins") (by decide +kernel)
  simp [cF21] at this

example : ¬ StepOK (.command cF21) := by
  intro h
  rw [StepOK] at h
  have := h.1.rem.prim' (k := "plugins") (by decide +kernel)
  simp [cF21] at this

namespace ExampleOK
open Example

/-- A document whose strings mention `$FOO` in every position the walkers visit: env name and value, plugin
    config key and value, cache path and unknown cache setting, matrix dimension name and value, adjustment
    `with` name and unknown adjustment setting, and a key NESTED inside an unknown field. -/
def mEx2 : Unm.Entries :=
  [("key", .str "build"), ("command", .str "$FOO"),
   ("plugins", .seq [.omap [("docker#v5.0.0", .omap [("image", .str "$FOO"), ("$FOO", .str "x")])], .str "ecr"]),
   ("env", .omap [("FOO", .str "$FOO"), ("$FOO", .str "1")]),
   ("cache", .omap [("paths", .seq [.str "$FOO"]), ("zone", .str "$FOO")]),
   ("matrix", .omap [("setup", .omap [("$FOO", .seq [.str "a", .str "$FOO"])]),
                     ("adjustments", .seq [.omap [("with", .omap [("$FOO", .str "a")]), ("soft_fail", .str "$FOO")]])]),
   ("agents", .omap [("queue", .str "$FOO"), ("$FOO", .str "y")]), ("timeout_in_minutes", .int 10)]

/-- Rewrites the string `$FOO` to `bar` and fixes every other string. -/
def tfEx : String → Except Unit String := fun s => .ok (if s = "$FOO" then "bar" else s)

def cEx2 : CommandStep :=
  { key := "build", label := "", command := "$FOO",
    plugins := some [some { source := "docker#v5.0.0", config := .umap [("$FOO", .str "x"), ("image", .str "$FOO")] },
                     some { source := "ecr", config := .null }],
    env := some [("$FOO", "1"), ("FOO", "$FOO")], signature := none,
    matrix := some { setup := some [("$FOO", some ["a", "$FOO"])],
                     adjustments := some [some { with_ := some [("$FOO", "a")], skip := .null,
                                                 rem := some [("soft_fail", .str "$FOO")] }],
                     rem := none },
    cache := some { disabled := false, name := "", paths := some ["$FOO"], size := "",
                    rem := some [("zone", .str "$FOO")] },
    rem := some [("agents", .omap [("queue", .str "$FOO"), ("$FOO", .str "y")]), ("timeout_in_minutes", .int 10)] }

/-- The interpolated step: keys and values rewritten everywhere except the top-level remainder keys. -/
def c1Ex2 : CommandStep :=
  { key := "build", label := "", command := "bar",
    plugins := some [some { source := "docker#v5.0.0", config := .umap [("bar", .str "x"), ("image", .str "bar")] },
                     some { source := "ecr", config := .null }],
    env := some [("FOO", "bar"), ("bar", "1")], signature := none,
    matrix := some { setup := some [("bar", some ["a", "bar"])],
                     adjustments := some [some { with_ := some [("bar", "a")], skip := .null,
                                                 rem := some [("soft_fail", .str "bar")] }],
                     rem := none },
    cache := some { disabled := false, name := "", paths := some ["bar"], size := "",
                    rem := some [("zone", .str "bar")] },
    rem := some [("agents", .omap [("queue", .str "bar"), ("bar", .str "y")]), ("timeout_in_minutes", .int 10)] }

theorem parse_mEx2 : parseCommand mEx2 = .ok cEx2 := by decide +kernel

/-- The same document as a step: the contents select the command kind, the rest is `parse_mEx2`. -/
theorem parseStep_mEx2 : parseStep 1 (.omap mEx2) = .ok (.command cEx2, []) := by
  have hsel : selOf mEx2 = .ok (.known .command) := eq_ok_of_decide (by decide +kernel)
  rw [parseStep.eq_3, hsel]
  simp only [parse_mEx2]

theorem interp_cEx2 : Interp.interpCommand .env tfEx cEx2 = .ok c1Ex2 := by decide +kernel

theorem keysFixed_ex : KeysFixed tfEx cEx2 := by
  refine ⟨?_, ?_, ?_⟩
  · intro k hk
    simp only [cEx2, Option.getD_some, List.map_cons, List.map_nil, List.mem_cons, List.not_mem_nil, or_false] at hk
    rcases hk with rfl | rfl <;> rfl
  · intro k hk
    simp only [cEx2, Option.some.injEq] at hk
    subst hk
    intro k hk
    simp only [Option.getD_some, List.map_cons, List.map_nil, List.mem_cons, List.not_mem_nil, or_false] at hk
    subst hk
    rfl
  · intro m hm
    simp only [cEx2, Option.some.injEq] at hm
    subst hm
    refine ⟨by intro k hk; simp at hk, ?_⟩
    intro l hl a ha
    simp only [Option.some.injEq] at hl
    subst hl
    simp only [List.mem_cons, Option.some.injEq, List.not_mem_nil, or_false] at ha
    subst ha
    intro k hk
    simp only [Option.getD_some, List.map_cons, List.map_nil, List.mem_cons, List.not_mem_nil, or_false] at hk
    subst hk
    rfl

theorem stable_c1Ex2 : StableCommand c1Ex2 := by
  refine ⟨⟨fun _ => rfl, fun h => by simp [c1Ex2] at h⟩, ?_, ?_, ?_, ?_⟩
  · intro l hl p hp
    simp only [c1Ex2, Option.some.injEq] at hl
    subst hl
    simp only [List.mem_cons, Option.some.injEq, List.not_mem_nil, or_false] at hp
    rcases hp with rfl | rfl <;> simp [JStable, JStableKVs]
  · intro m hm
    simp only [c1Ex2, Option.some.injEq] at hm
    subst hm
    refine ⟨?_, ?_, by simp [StableUMap, JStableKVs]⟩
    · intro l hl a ha
      simp only [Option.some.injEq] at hl
      subst hl
      simp only [List.mem_cons, Option.some.injEq, List.not_mem_nil, or_false] at ha
      subst ha
      simp [StableAdjustment, emptyishSkip, JStable, StableUMap, JStableKVs]
    · intro l hl
      simp only [Option.some.injEq] at hl
      subst hl
      simp
  · intro k hk
    simp only [c1Ex2, Option.some.injEq] at hk
    subst hk
    simp [StableUMap, JStableKVs, JStable]
  · simp [c1Ex2, StableUMap, JStableKVs, JStable]

/-- The hypotheses of `C02_interpolate_then_sign_command` are jointly satisfiable on a step with plugins, env,
    matrix, cache and unknown fields, and a transformer that rewrites keys as well as values (env name, plugin
    config key, matrix dimension, `with` name, a key nested inside an unknown field), with the toy scheme of C01. -/
example : ∃ kvs c', rereadJ (mCommand (attach toyScheme renderToy (sign toyScheme keyEx "toy-alg" c1Ex2 "git@example.com:acme/app.git" penvEx) c1Ex2)) = .omap kvs ∧
      parseCommand kvs = .ok c' ∧
      c'.signature = (attach toyScheme renderToy (sign toyScheme keyEx "toy-alg" c1Ex2 "git@example.com:acme/app.git" penvEx) c1Ex2).signature ∧
      StepVerifies toyScheme parseToy (toyScheme.pubOf keyEx) "git@example.com:acme/app.git" env1Ex c' :=
  C02_interpolate_then_sign_command toyScheme renderToy parseToy parseToy_render mEx2 cEx2 c1Ex2
    (by simp [mEx2, NoUMapKVs, NoUMap, NoUMapList]) parse_mEx2 tfEx interp_cEx2 keysFixed_ex stable_c1Ex2 keyEx "toy-alg"
    "git@example.com:acme/app.git" penvEx env1Ex envExtends_ex

/-- The same step as a one-element step list through the tree-level theorem: `StepOK` holds of the parsed
    step (`C02_parser_image_is_ok`), so the signed list verifies after the round trip. -/
example : StepOK (.command cEx2) ∧ stepDepth (.command cEx2) ≤ 1 :=
  C02_parser_image_is_ok 1 (.omap mEx2) (.command cEx2) []
    (by simp [mEx2, NoUMapKVs, NoUMap, NoUMapList]) (by simp [mEx2, KeysNodup, KeysNodupKVs, KeysNodupList])
    parseStep_mEx2

/-- A step tree OUTSIDE the parser's image (the nested empty wait step, see
    `C02_ok_strictly_larger_than_parser_image`): a group holding a command step and an API-built wait step. -/
def treeEx : Step := .group "grp" (some "Build") (some [.command cEx, .wait "" none]) none

theorem stepOK_treeEx : StepOK treeEx := by
  rw [treeEx, stepOK_group_some]
  refine ⟨remOK_none _, eq_ok_of_decide (by decide +kernel), ?_⟩
  simp only [StepsOK, and_true]
  refine ⟨?_, stepOK_wait_empty⟩
  rw [StepOK]
  exact ⟨parseCommand_inv (by simp [mEx, NoUMapKVs, NoUMap, NoUMapList]) parse_mEx, eq_ok_of_decide (by decide +kernel)⟩

theorem stable_treeEx : StableStep treeEx := by
  simp only [treeEx, StableStep, StableSteps, and_true]
  refine ⟨⟨stable_cEx, by simp [StableUMap, JStableKVs]⟩, by simp [StableUMap, JStableKVs], by simp, by simp⟩

/-- All hypotheses of `C02_signed_tree_verifies_after_roundtrip_ok` hold of `treeEx`, `SignSteps` succeeds, and
    the re-parsed tree verifies. -/
example : ∃ signed j s' w',
    signStep toyScheme renderToy keyEx "toy-alg" "git@example.com:acme/app.git" penvEx treeEx = .ok signed ∧
    mStep signed = .ok j ∧ parseStep 2 (rereadJ j) = .ok (s', w') ∧
    VerifiesAll toyScheme parseToy (toyScheme.pubOf keyEx) "git@example.com:acme/app.git" env1Ex s' := by
  have hsign : ∃ signed, signStep toyScheme renderToy keyEx "toy-alg" "git@example.com:acme/app.git" penvEx treeEx =
      .ok signed := by
    rw [treeEx, Signing.signStep_group_some, Signing.signSteps_cons, Signing.signStep_command,
      Signing.signSteps_cons, Signing.signStep_wait, Signing.signSteps_nil]
    exact ⟨_, rfl⟩
  obtain ⟨signed, hsigned⟩ := hsign
  obtain ⟨j, s', w', h1, h2, h3⟩ := C02_signed_tree_verifies_after_roundtrip_ok toyScheme renderToy parseToy
    parseToy_render treeEx stepOK_treeEx stable_treeEx 2 (by simp [treeEx, stepDepth, stepsDepth]) keyEx "toy-alg"
    "git@example.com:acme/app.git" penvEx env1Ex envExtends_ex signed hsigned
  exact ⟨signed, j, s', w', hsigned, h1, h2, h3⟩

end ExampleOK

end GoPipeline.SignedRT
