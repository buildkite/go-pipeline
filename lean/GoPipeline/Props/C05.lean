/-
  C05 — property theorems: the concrete ordered map (slots + tombstones + index, as in
  `ordered/map.go`) refines a plain list of pairs under every operation history.
  The lemmas the statements rest on are in `GoPipeline/Lemmas/OMap.lean`.
-/
import GoPipeline.Lemmas.OMap
namespace GoPipeline.OMap
variable {V : Type}

theorem C05_inv_new : Inv (newMap : CMap V) :=
  Inv.mk' List.nodup_nil (fun _ => rfl) List.nodup_nil
theorem C05_inv_zero : Inv (zeroMap : CMap V) :=
  ⟨fun _ => rfl, nofun, nofun, List.nodup_nil⟩

theorem C05_inv_set {c : CMap V} (h : Inv c) (k : String) (v : V) : Inv (set c k v) :=
  (inv_abs_set h k v).1
theorem C05_inv_replace {c : CMap V} (h : Inv c) (o n : String) (v : V) : Inv (replace c o n v) :=
  (inv_abs_replace h o n v).1
theorem C05_inv_delete {c : CMap V} (h : Inv c) (k : String) : Inv (delete c k) :=
  (inv_abs_delete h k).1
theorem C05_inv_compact {c : CMap V} (h : Inv c) : Inv (compact c) := (inv_abs_compact h).1

theorem C05_abs_set {c : CMap V} (h : Inv c) (k : String) (v : V) :
    abs (set c k v) = aset (abs c) k v := (inv_abs_set h k v).2
theorem C05_abs_replace {c : CMap V} (h : Inv c) (o n : String) (v : V) :
    abs (replace c o n v) = areplace (abs c) o n v := (inv_abs_replace h o n v).2
theorem C05_abs_delete {c : CMap V} (h : Inv c) (k : String) :
    abs (delete c k) = adelete (abs c) k := (inv_abs_delete h k).2
theorem C05_abs_compact {c : CMap V} (h : Inv c) : abs (compact c) = abs c := (inv_abs_compact h).2

theorem C05_len {c : CMap V} (h : Inv c) : len c = (abs c).length := len_eq h
theorem C05_isZero {c : CMap V} (h : Inv c) : isZero c = (abs c).isEmpty := isZero_eq h
theorem C05_get {c : CMap V} (h : Inv c) (k : String) : get c k = (abs c).lookup k := by
  unfold get abs
  cases e : c.index with
  | none => rw [h.nilIndex e]; rfl
  | some ix =>
    simp only [idxGet, h.lookup e k]
    cases hp : posOf k 0 c.items with
    | none => exact (lookup_pairsOf_eq_none ((posOf_eq_none_iff k 0 _).1 hp)).symm
    | some i => exact getElem?_of_posOf hp
theorem C05_contains {c : CMap V} (h : Inv c) (k : String) :
    contains c k = ((abs c).lookup k).isSome := by
  unfold contains abs
  cases e : c.index with
  | none => rw [h.nilIndex e]; rfl
  | some ix =>
    simp only [idxGet, h.lookup e k]
    rw [Bool.eq_iff_iff, posOf_isSome_iff, lookup_pairsOf_isSome]
theorem C05_range {c : CMap V} (h : Inv c) : range c = abs c := by
  rw [range, isZero_eq h]
  cases e : abs c <;> simp [← e, abs]
/-- Keys of a reachable map are pairwise distinct, so converting to a plain Go map loses nothing. -/
theorem C05_keys_nodup {c : CMap V} (h : Inv c) : (akeys (abs c)).Nodup := by
  rw [akeys, abs, map_fst_pairsOf]; exact h.keys

/-! ### Equality: never panics (it is a total function here), and is the pairwise comparison -/

theorem C05_equal {a b : CMap V} (ha : Inv a) (hb : Inv b) (veq : V → V → Bool) :
    equal veq (some a) (some b) = aequal veq (abs a) (abs b) := by
  rw [equal, len_eq ha, len_eq hb]
  split
  · next h => exact (aequal_of_length_ne veq (bne_iff_ne.1 h)).symm
  · next h => exact equalLoop_eq veq _ _ (Decidable.of_not_not fun e => h (bne_iff_ne.2 e))

theorem C05_equal_refl {a : CMap V} (ha : Inv a) (veq : V → V → Bool) (hr : ∀ v, veq v v = true) :
    equal veq (some a) (some a) = true := by
  rw [C05_equal ha ha]; exact aequal_refl veq hr _

theorem C05_equal_symm {a b : CMap V} (ha : Inv a) (hb : Inv b) (veq : V → V → Bool)
    (hs : ∀ v w, veq v w = veq w v) :
    equal veq (some a) (some b) = equal veq (some b) (some a) := by
  rw [C05_equal ha hb, C05_equal hb ha]; exact aequal_symm veq hs _ _

/-- `Equal` is true exactly when keys, values (under `veq`) and order all match. -/
theorem C05_equal_iff {a b : CMap V} (ha : Inv a) (hb : Inv b) (veq : V → V → Bool) :
    equal veq (some a) (some b) = true ↔
      akeys (abs a) = akeys (abs b) ∧
      List.Forall₂ (fun p q => veq p.2 q.2 = true) (abs a) (abs b) := by
  rw [C05_equal ha hb]; exact aequal_iff veq _ _

theorem C05_history (c : CMap V) (h : Inv c) (ops : List (Op V)) :
    Inv (run c ops) ∧ abs (run c ops) = arun (abs c) ops := by
  induction ops generalizing c with
  | nil => exact ⟨h, rfl⟩
  | cons op r ih =>
    have hs := step_refines h op
    simp only [run, arun, List.foldl_cons]
    rw [← hs.2]
    exact ih _ hs.1

theorem C05_history_new (ops : List (Op V)) :
    Inv (run (newMap : CMap V) ops) ∧ abs (run (newMap : CMap V) ops) = arun [] ops :=
  C05_history _ C05_inv_new ops

theorem C05_history_zero (ops : List (Op V)) :
    Inv (run (zeroMap : CMap V) ops) ∧ abs (run (zeroMap : CMap V) ops) = arun [] ops :=
  C05_history _ C05_inv_zero ops

/-- `MapFromItems(ps...)`: a `NewMap` followed by one `Set` per item, repeated keys included. -/
def fromItems (ps : List (String × V)) : CMap V := run newMap (ps.map fun p => Op.set p.1 p.2)

/-- The map `MapFromItems` builds is the one the list of pairs describes (first position, last value),
    and every later history continues from there. -/
theorem C05_from_items (ps : List (String × V)) (ops : List (Op V)) :
    Inv (run (fromItems ps) ops) ∧
    abs (run (fromItems ps) ops) = arun (ps.foldl (fun l p => aset l p.1 p.2) []) ops := by
  have h0 := C05_history (newMap : CMap V) C05_inv_new (ps.map fun p => Op.set p.1 p.2)
  have h1 := C05_history (fromItems ps) h0.1 ops
  refine ⟨h1.1, h1.2.trans ?_⟩
  rw [fromItems, h0.2]
  exact congrArg (arun · ops) List.foldl_map

theorem C05_rangeReplace {E : Type} {c : CMap V} (h : Inv c)
    (f : String → V → Except E (String × V)) :
    (match rangeReplace f c with
     | .ok c' => Inv c' ∧ aRangeReplace f [] (abs c) = .ok (abs c')
     | .error e => aRangeReplace f [] (abs c) = .error e) := rangeReplace_refines h f

/-! ### Non-vacuity: a reachable state with a tombstone (three slots for two pairs) satisfies the hypotheses -/

example : Inv (run (newMap : CMap Nat) [.set "a" 1, .set "b" 2, .set "c" 3, .delete "c"]) :=
  (C05_history_new _).1

example : abs (run (newMap : CMap Nat) [.set "a" 1, .set "b" 2, .set "c" 3, .replace "a" "c" 9]) =
    [("c", 9), ("b", 2)] := by decide

example : (run (newMap : CMap Nat) [.set "a" 1, .set "b" 2, .set "c" 3, .replace "a" "c" 9]).items.length = 3 := by
  decide

end GoPipeline.OMap
