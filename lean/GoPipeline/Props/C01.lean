/-
  C01 — any semantic change to signed step content makes verification fail.
  The lemmas the statements rest on are in `GoPipeline/Lemmas/Signing.lean`.
  `S : SigScheme` carries, as fields (hypotheses, not axioms), correctness and the idealised unforgeability
  assumptions: A1, a signature verifies under the signer's key for no message but the signed one; A2, it
  verifies under no other key.  `toyScheme` at the end of this file satisfies them, so they are consistent.
-/
import GoPipeline.Lemmas.Signing
import GoPipeline.Gen.Signing
namespace GoPipeline.Signing
open GoPipeline GoPipeline.Pipe GoPipeline.Marshal GoPipeline.Jcs

/-! ### The tables in the source are the ones the model implements -/

theorem C01_signing_tables :
    Gen.sigRecognised = true ∧ Gen.sigEnvNamespacePrefix = envNamespacePrefix ∧
    Gen.sigRequired = mandatoryFields ∧ Gen.sigDefaultPassesEnvPrefix = true ∧
    Gen.sigSignedFields =
      [("command", "c.Command"), ("env", "EmptyToNilMap(c.Env)"), ("plugins", "EmptyToNilSlice(c.Plugins)"),
       ("matrix", "EmptyToNilPtr(c.Matrix)"), ("repository_url", "c.RepositoryURL")] ∧
    Gen.sigValuesForFields =
      [("command", "out[\"command\"] = c.Command"), ("env", "out[\"env\"] = EmptyToNilMap(c.Env)"),
       ("plugins", "out[\"plugins\"] = EmptyToNilSlice(c.Plugins)"), ("matrix", "out[\"matrix\"] = EmptyToNilPtr(c.Matrix)"),
       ("repository_url", "out[\"repository_url\"] = c.RepositoryURL")] :=
  ⟨rfl, rfl, rfl, rfl, rfl, rfl⟩

variable (S : SigScheme)

/-! `ValuesOK` and `verifyRequired` are defined in `Lemmas/Signing.lean`, so that `sound` can mention them;
    the next two statements say what they are. -/
example (v : List (String × Val)) : ValuesOK v ↔ (WFMembers (valJKVs v) ∧ KeysDistinct (.obj (valJKVs v))) := Iff.rfl
theorem C01_verifyRequired_spec (r : Record S) (c : CommandStep) (repo : String) (env : List (String × String)) :
    verifyPayload S r c repo env = (verifyRequired S r c repo env).map (payload r.algorithm) :=
  verifyPayload_eq S r c repo env

/-! ### Soundness: what a successful verification implies -/

/-- The core: if a record carrying the value produced by `sign` verifies against a presented step,
    env and repository URL, then the key is the signing key and the recomputed payload is the signed one. -/
theorem C01_verify_binds_payload (k : S.Key) (alg : String) (c₀ : CommandStep) (repo₀ : String)
    (penv₀ : List (String × String)) (r' : Record S) (hval : r'.value = (sign S k alg c₀ repo₀ penv₀).value)
    (pub : S.Pub) (c₁ : CommandStep) (repo₁ : String) (env₁ : List (String × String))
    (hv : verify S r' pub c₁ repo₁ env₁ = .ok ()) :
    pub = S.pubOf k ∧ verifyPayload S r' c₁ repo₁ env₁ = .ok (payload alg (signValues c₀ repo₀ penv₀)) :=
  verify_binds_payload S k alg c₀ repo₀ penv₀ r' hval pub c₁ repo₁ env₁ hv

/-- Verification fails under any key other than the signing key. -/
theorem C01_other_key_fails (k : S.Key) (alg : String) (c₀ : CommandStep) (repo₀ : String)
    (penv₀ : List (String × String)) (r' : Record S) (hval : r'.value = (sign S k alg c₀ repo₀ penv₀).value)
    (pub : S.Pub) (hne : pub ≠ S.pubOf k) (c₁ : CommandStep) (repo₁ : String) (env₁ : List (String × String)) :
    verify S r' pub c₁ repo₁ env₁ ≠ .ok () := fun hv =>
  hne (verify_binds_payload S k alg c₀ repo₀ penv₀ r' hval pub c₁ repo₁ env₁ hv).1

/-- Everything that was signed is bound: algorithm, command, repository URL, step env, plugin sequence
    (canonical sources and configs, in order), matrix, and every signed pipeline env variable — each
    equal (up to JSON member order inside configs) to what was signed; and the presented field list
    names exactly the signed fields. -/
theorem C01_sound (k : S.Key) (alg : String) (c₀ : CommandStep) (repo₀ : String)
    (penv₀ : List (String × String)) (r' : Record S) (hval : r'.value = (sign S k alg c₀ repo₀ penv₀).value)
    (pub : S.Pub) (c₁ : CommandStep) (repo₁ : String) (env₁ : List (String × String))
    (hv : verify S r' pub c₁ repo₁ env₁ = .ok ())
    (hp₀ : (penv₀.map (·.1)).Nodup) (hp₁ : (env₁.map (·.1)).Nodup)
    (hok₀ : ValuesOK (signValues c₀ repo₀ penv₀))
    (hok₁ : ∀ req, verifyRequired S r' c₁ repo₁ env₁ = .ok req → ValuesOK req) :
    r'.algorithm = alg ∧
    c₁.command = c₀.command ∧ repo₁ = repo₀ ∧
    Equiv (valJ (envField c₁.env)) (valJ (envField c₀.env)) ∧
    Equiv (valJ (pluginsField c₁.plugins)) (valJ (pluginsField c₀.plugins)) ∧
    Equiv (valJ (matrixField c₁.matrix)) (valJ (matrixField c₀.matrix)) ∧
    (∀ f, f ∈ r'.signedFields ↔ f ∈ (signValues c₀ repo₀ penv₀).map (·.1)) ∧
    (∀ name v, (name, v) ∈ penv₀ → name ∉ (c₀.env.getD []).map (·.1) →
        env₁.lookup name = some v ∧ name ∉ (c₁.env.getD []).map (·.1)) :=
  sound S k alg c₀ repo₀ penv₀ r' hval pub c₁ repo₁ env₁ hv hp₀ hp₁ hok₀ hok₁

/-! ### Record mutations that fail outright -/

/-- Dropping a mandatory field from the field list. -/
theorem C01_mandatory_field_dropped (r : Record S) (pub : S.Pub) (c : CommandStep) (repo : String)
    (env : List (String × String)) (f : String) (hf : f ∈ mandatoryFields) (hn : f ∉ r.signedFields) :
    verify S r pub c repo env ≠ .ok () := by
  intro h
  obtain ⟨req, hr, _⟩ := (verify_iff S).1 h
  exact hn ((verifyRequired_ok hr).1 f hf)

/-- A field name that is neither a known field nor in the `env::` namespace. -/
theorem C01_garbage_field (r : Record S) (pub : S.Pub) (c : CommandStep) (repo : String)
    (env : List (String × String)) (f : String) (hf : f ∈ r.signedFields)
    (hk : fieldValue c repo f = none) (hp : f.startsWith envNamespacePrefix = false) :
    verify S r pub c repo env ≠ .ok () := by
  intro h
  obtain ⟨req, hr, _⟩ := (verify_iff S).1 h
  rcases (verifyRequired_ok hr).2.1 f hf with h' | h'
  · exact h' hk
  · rw [hp] at h'; cases h'

/-- An empty field list. -/
theorem C01_no_fields (r : Record S) (pub : S.Pub) (c : CommandStep) (repo : String)
    (env : List (String × String)) (h : r.signedFields = []) : verify S r pub c repo env ≠ .ok () := by
  intro hv
  obtain ⟨req, hr, _⟩ := (verify_iff S).1 hv
  exact absurd (h ▸ (verifyRequired_ok hr).1 "command" List.mem_cons_self) List.not_mem_nil

/-! ### Completeness: the honest signature verifies (needed by C02/C06), and harmless changes do too -/

/-- The signature made by `sign` verifies with the matching public key for the same step and URL,
    under any verification env that agrees with the signed pipeline env on the unshadowed names
    (extra, unrelated variables are allowed). -/
theorem C01_complete (k : S.Key) (alg : String) (c : CommandStep) (repo : String)
    (penv env₁ : List (String × String)) (hp : (penv.map (·.1)).Nodup) (hp₁ : (env₁.map (·.1)).Nodup)
    (hsub : ∀ name v, (name, v) ∈ penv → name ∉ (c.env.getD []).map (·.1) → env₁.lookup name = some v) :
    verify S (sign S k alg c repo penv) (S.pubOf k) c repo env₁ = .ok () := complete S k alg c repo penv env₁ hp hp₁ hsub

/-- Reordering or duplicating the field list is not a semantic change: it still verifies. -/
theorem C01_field_list_order_irrelevant (r r' : Record S) (pub : S.Pub) (c : CommandStep) (repo : String)
    (env : List (String × String)) (ha : r'.algorithm = r.algorithm) (hv : r'.value = r.value)
    (hset : ∀ f, f ∈ r'.signedFields ↔ f ∈ r.signedFields)
    (h : verify S r pub c repo env = .ok ()) : verify S r' pub c repo env = .ok () := by
  obtain ⟨req, hr, hs⟩ := (verify_iff S).1 h
  obtain ⟨hm, hf, hk⟩ := verifyRequired_ok hr
  -- `requireKeys` sees the field list only through membership
  have hk' : requireKeys (signValues c repo env) r'.signedFields = .ok req := by
    rw [requireKeys_iff] at hk ⊢
    simpa only [hset] using hk
  have hr' : verifyRequired S r' c repo env = .ok req :=
    verifyRequired_of (fun m hm' => (hset m).2 (hm m hm')) (fun f hf' => hf f ((hset f).1 hf')) hk'
  exact (verify_iff S).2 ⟨req, hr', by rw [ha, hv]; exact hs⟩

/-! Non-vacuity: the toy scheme "a signature is (key, message)" satisfies A1, A2 and correctness. -/
def toyScheme : SigScheme where
  Key := Nat
  Pub := Nat
  Sig := Nat × List Char
  pubOf := id
  sign := fun k m => (k, m)
  verify := fun p m' s => p == s.1 && m' == s.2
  correct := by intro k m; simp
  a1 := by intro k m m' h; simp at h; exact h
  a2 := by intro k p m m' hne; simp only [id] at hne; simp [hne]

end GoPipeline.Signing
