/-
  C08 — order-significant mappings keep document order through decode and encode.
  The lemmas these statements are read off from are in `GoPipeline/Lemmas/Order.lean` (which builds on
  `Lemmas/Yaml.lean`, `Lemmas/Parse03.lean`).

  The chain the property describes, stage by stage:
    document --(yaml.v3 parser: trusted)--> node graph --decodeYAML--> ordered tree      (1), (2)
    ordered tree --parse (typed layer)--> Pipeline                                        (3), (4), (5)
    Pipeline --Marshal--> value tree handed to the encoders                               (3), (4), (5)
    value tree --encoding/json / yaml.v3 emitters: trusted, token order checked by the harness--> bytes
    bytes --decode again--> ordered tree                                                  (6)
  The ordered map's own iteration order after any history of Set/Replace/Delete is C05 (C05_range…).
-/
import GoPipeline.Lemmas.Order
namespace GoPipeline.Order
open GoPipeline GoPipeline.Pipe GoPipeline.Parse GoPipeline.Marshal GoPipeline.Unm GoPipeline.Roundtrip

/-! ### (1) decoding a mapping keeps the order in which the merge walk yields its keys -/

/-- The decoded mapping lists its keys in the order the walk yielded them (first occurrence of each). -/
theorem C08_decode_keeps_yield_order (s : Yaml.Store) (f : Nat) (seen : List Nat) (ps : List (String × Nat))
    (acc : List (String × Val)) (h : Yaml.decodePairs s f seen ps [] = .ok acc) :
    acc.map (·.1) = (ps.map (·.1)).eraseDups := Yaml.decoded_key_order s f seen ps acc h

/-! ### (2) the walk's order is document order with merged keys standing where the merge key stood -/

/-- On a mapping without any merge key the walk yields exactly the written pairs, in written order
    (keys canonicalised). -/
theorem C08_plain_mapping_document_order (s : Yaml.Store) (f : Nat) (ps : List (Nat × Nat))
    (hplain : ∀ p ∈ ps, ∀ kn, s[p.1]? = some kn → kn.isMerge = false)
    (out : List String × List (String × Nat))
    (h : Yaml.specPairs s f [] [] ps = .ok out) :
    out.2.map (·.2) = ps.map (·.2) := by
  have := specPairs_plain s ps f [] [] out hplain h
  simpa using this

/-- Explicit pairs written before a merge key stay before everything the merge contributes, and those
    written after it come after: `specPairs` only ever appends. (`C07_merge_is_spec` identifies the walk of
    the implementation with `specContent`, whose `<<` case splices the merged content in at that point.) -/
theorem C08_merged_keys_stand_at_merge_key (s : Yaml.Store) (f : Nat) (have_ : List String)
    (out : List (String × Nat)) (ps : List (Nat × Nat)) (r : List String × List (String × Nat))
    (h : Yaml.specPairs s f have_ out ps = .ok r) : ∃ added, r.2 = out ++ added := by
  induction ps generalizing f have_ out with
  | nil =>
    cases f with
    | zero => simp [Yaml.specPairs] at h
    | succ f =>
      simp only [Yaml.specPairs, Except.ok.injEq] at h
      subst h
      exact ⟨[], by simp⟩
  | cons p rest ih =>
    obtain ⟨k, v⟩ := p
    cases f with
    | zero => simp [Yaml.specPairs] at h
    | succ f =>
      simp only [Yaml.specPairs] at h
      cases hs : s[k]? with
      | none => simp [hs] at h
      | some kn =>
        simp only [hs] at h
        cases hm : kn.isMerge <;> simp only [hm, Bool.false_eq_true, ↓reduceIte] at h
        case true =>
          cases hsrc : Yaml.specSources s (f + 1) (some v) with
          | error e => simp [hsrc] at h
          | ok srcs =>
            simp only [hsrc] at h
            cases hma : Yaml.specMergeAll s f have_ out srcs with
            | error e => simp [hma] at h
            | ok mid =>
              obtain ⟨have', out'⟩ := mid
              simp only [hma] at h
              obtain ⟨a1, h1⟩ := specMergeAll_appends s srcs f have_ out _ hma
              obtain ⟨a2, h2⟩ := ih f have' out' h
              simp only at h1
              exact ⟨a1 ++ a2, by rw [h2, h1, List.append_assoc]⟩
        case false =>
          cases hck : Yaml.canonicalKey s (f + 1) k with
          | error e => simp [hck] at h
          | ok ck =>
            simp only [hck] at h
            obtain ⟨a2, h2⟩ := ih f have_ _ h
            exact ⟨(ck, v) :: a2, by rw [h2]; simp⟩

/-! ### (3) the pipeline env block -/

/-- The typed env block has the document's keys in the document's order. -/
theorem C08_env_block_parse_order (kvs : List (String × Val)) (l : List (String × String))
    (h : parseEnvOrdered (.omap kvs) = .ok (some l)) : l.map (·.1) = kvs.map (·.1) :=
  env_parse_order kvs l h

/-- …and is marshalled as an ordered mapping with those keys in that order. -/
theorem C08_env_block_marshal_order (p : Pipeline) (l : List (String × String)) (j : Val)
    (he : p.env = some l) (h : mPipeline p = .ok j) :
    ∃ kvs, j = .umap kvs ∧ kvs.lookup "env" = some (.omap (l.map fun (k, v) => (k, .str v))) :=
  env_marshal_order p l j he h

/-- End to end on the model: a document's env block comes out with its keys in document order. -/
theorem C08_env_block_order (m : Entries) (kvs : List (String × Val)) (p : Pipeline) (ws : List Warn) (j : Val)
    (hm : (m.map (·.1)).Nodup) (henv : m.lookup "env" = some (.omap kvs))
    (hp : parsePipeline (.omap m) = .ok (p, ws)) (hj : mPipeline p = .ok j) :
    ∃ out kvs', j = .umap out ∧ out.lookup "env" = some (.omap kvs') ∧ kvs'.map (·.1) = kvs.map (·.1) := by
  obtain ⟨l, hpe, he⟩ := parsePipeline_env_block henv hp
  obtain ⟨out, h1, h2⟩ := env_marshal_order p l j hpe hj
  refine ⟨out, _, h1, h2, ?_⟩
  rw [← env_parse_order kvs l he, List.map_map]
  rfl

/-! ### (4) plugins written as one mapping -/

/-- The plugin list follows the mapping's key order, and is marshalled as a list in that order. -/
theorem C08_plugins_mapping_order (kvs : List (String × Val)) (hne : kvs ≠ []) :
    ∃ l, parsePlugins (.omap kvs) = .ok (some l) ∧
      l.map (fun p => p.map (·.source)) = kvs.map (fun kv => some kv.1) ∧
      ∃ js, mPlugins l = .seq js ∧ js.length = kvs.length := by
  refine ⟨_, plugins_from_mapping kvs hne, ?_, _, rfl, ?_⟩
  · simp [List.map_map, Function.comp_def]
  · simp

/-! ### (5) mappings nested inside unknown fields and unknown steps are carried as they are -/

/-- An unknown key of a command step is marshalled with the identical value tree — the same keys in the
    same order at every depth. -/
theorem C08_unknown_field_verbatim (m : Entries) (c : CommandStep) (h : parseCommand m = .ok c)
    (hm : (keysOf m).Nodup) (k : String) (hk : k ∉ commandKeys) :
    ∃ kvs, mCommand c = .umap kvs ∧ kvs.lookup k = m.lookup k :=
  let ⟨kvs, h1, h2, _⟩ := command_other_keys_preserved m c h hm k hk
  ⟨kvs, h1, h2⟩

/-- An unknown step is marshalled as the identical value tree. -/
theorem C08_unknown_step_verbatim (v : Val) : mStep (.unknown v) = .ok v := mStep_unknown v

/-! ### (6) an ordered tree survives encode then decode -/

/-- Reading back what the encoders were given keeps every mapping's keys in order … -/
theorem C08_reread_keeps_keys (kvs : List (String × Val)) :
    (rereadJKVs kvs).map (·.1) = kvs.map (·.1) := reread_keeps_keys kvs

/-- … and a tree made of ordered mappings only (what `ordered.DecodeYAML` and `ordered.Map` hold) comes
    back identical: same keys, same values, same order, at every depth. (Number / timestamp re-typing by
    the text codec is C09's `JStable` side condition; it does not touch keys or order.) -/
theorem C08_reread_ordered_tree_id (v : Val) (h : NoUMap v) : rereadJ v = v := reread_id v h

/-! Non-vacuity -/
example : parseEnvOrdered (.omap [("B", .int 1), ("A", .str "x")]) = .ok (some [("B", "1"), ("A", "x")]) := by decide
example : NoUMap (.omap [("z", .omap [("b", .int 1), ("a", .null)]), ("y", .seq [.omap []])]) := by
  simp [NoUMap, NoUMapKVs, NoUMapList]

end GoPipeline.Order
