/-
  C07 — the recursion error is sound: `decodeYAML` reports "infinite recursion" only for node graphs whose value
  graph (sequence elements, document content, alias targets, the value nodes the merge walk yields for a mapping)
  has a cycle. With `C07_cycle_detected` (a node that is its own ancestor IS rejected) this makes the rejection exact
  on the decoding path. Proofs in `Lemmas/YamlCycle.lean`.
-/
import GoPipeline.Lemmas.YamlCycle
namespace GoPipeline.Yaml
open GoPipeline

/-- The invariant behind it: whenever `decode` answers with the recursion error, some node reachable from the
    node it was called on is either already on the current decoding path (`seen`) or lies on a cycle. -/
theorem C07_recursion_error_names_an_ancestor (s : Store) (f : Nat) (seen : List Nat) (i : Nat)
    (h : decode s f seen (some i) = .error .recursion) : ∃ j, Reach s i j ∧ (j ∈ seen ∨ OnCycle s j) :=
  (recursion_witness s f).1 seen i h

/-- From the top (empty path): a recursion error exhibits a reachable cycle … -/
theorem C07_recursion_only_on_cycles (s : Store) (root : Nat) (h : decodeYAML s root = .error .recursion) :
    ∃ j, Reach s root j ∧ OnCycle s j := by
  obtain ⟨j, hr, hj⟩ := (recursion_witness s (bound s)).1 [] root h
  exact ⟨j, hr, hj.resolve_left List.not_mem_nil⟩

/-- … so an acyclic document is never rejected as infinitely recursive (whatever else may be wrong with it). -/
theorem C07_acyclic_never_recursion (s : Store) (root : Nat) (h : Acyclic s root) :
    decodeYAML s root ≠ .error .recursion :=
  fun he => h (C07_recursion_only_on_cycles s root he)

/-! Non-vacuity: a graph with a value cycle is rejected with exactly this error (`a: &x [*x]`).  (That the
    acyclic merge/alias document `exStore` of `Props/C07.lean` decodes is an example in `Props/EndToEnd.lean`.) -/
def selfSeqStore : Store :=
  [ /-0 doc-/ { kind := .document, isMerge := false, content := [1] },
    /-1 seq &x-/ { kind := .sequence, isMerge := false, content := [2] },
    /-2 *x-/ { kind := .alias, isMerge := false, aliasTo := some 1 } ]

example : decodeYAML selfSeqStore 0 = .error .recursion := by rfl
example : OnCycle selfSeqStore 1 :=
  ⟨2, .seq 1 2 _ rfl rfl (by simp), .step 2 1 1 (.alias 2 1 _ rfl rfl rfl) (.refl 1)⟩

end GoPipeline.Yaml
