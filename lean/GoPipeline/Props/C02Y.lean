/-
  C02, YAML leg — signed steps still verify after `yaml.Marshal` and re-parse (model level).
  The command step is `GoPipeline/Lemmas/SignedRoundtripY.lean`, which composes the YAML-leg round trip
  (Lemmas/RoundtripY.lean), C01 (`complete`) and the signing model; step trees are those of
  `Lemmas/StepOKY.lean`, the pipeline is `Lemmas/SignedPipeline.lean`, exactly as in Props/C02.lean for the
  JSON leg.

  The value tree handed to the YAML emitter is `MarshalY.y*` (Model/MarshalY.lean); the emitter + scanner pair is
  the same text codec `rereadJ` as on the JSON leg (its fidelity on these trees is what the correspondence and
  the end-to-end oracle of the harness check; findings F10 and F20 are emitter defects outside it).

  Side conditions are those of the YAML-leg fixpoint (`Stable*Y`): weaker than the JSON-leg ones, since an
  adjustment's empty-ish `skip` survives `yaml.Marshal` (finding F11 is a JSON-leg loss).  The payload that was
  signed is computed from the JSON form of the matrix (`Signing.matrixField` → `mMatrix`) on BOTH legs; what the
  YAML leg has to deliver is a re-parsed step whose signed fields have the same values.
-/
import GoPipeline.Lemmas.SignedPipeline
import GoPipeline.Lemmas.EndToEnd
import GoPipeline.Props.C02   -- the toy scheme and the example step (non-vacuity at the end)
set_option linter.unusedVariables false
namespace GoPipeline.SignedRT
open GoPipeline GoPipeline.Pipe GoPipeline.Parse GoPipeline.Marshal GoPipeline.Signing GoPipeline.Roundtrip

variable (S : SigScheme)

/-- One command step: parse, sign, attach, `yaml.Marshal`, re-read, re-parse, verify. -/
theorem C02_signed_step_verifies_after_yaml_roundtrip (render : S.Sig → String) (parseSig : String → Option S.Sig)
    (hrender : ∀ s, parseSig (render s) = some s)
    (m : Unm.Entries) (c : CommandStep) (hm : NoUMapKVs m) (hk : (m.map (·.1)).Nodup)
    (h : parseCommand m = .ok c) (hs : StableCommandY c)
    (k : S.Key) (alg repo : String) (penv env₁ : List (String × String)) (henv : EnvExtends penv env₁) :
    ∃ j kvs c', MarshalY.yCommand (attach S render (sign S k alg c repo penv) c) = .ok j ∧
      rereadJ j = .omap kvs ∧ parseCommand kvs = .ok c' ∧
      c'.signature = (attach S render (sign S k alg c repo penv) c).signature ∧
      StepVerifies S parseSig (S.pubOf k) repo env₁ c' :=
  let ⟨j, kvs, c', h0, h1, h2, h3, h4, _⟩ :=
    signed_command_coreY S render parseSig hrender c (parseCommand_inv hm h) hs k alg repo penv env₁ henv
  ⟨j, kvs, c', h0, h1, h2, h3, h4⟩

/-- Every step kind, groups recursively: after `SignSteps`, `yaml.Marshal` and re-parse every command step
    of the result carries a verifying signature. -/
theorem C02_signed_steps_verify_after_yaml_roundtrip (render : S.Sig → String) (parseSig : String → Option S.Sig)
    (hrender : ∀ s, parseSig (render s) = some s)
    (f : Nat) (x : Val) (s : Step) (w : List Warn) (hx : NoUMap x) (hd : KeysNodup x)
    (h : parseStep f x = .ok (s, w)) (hs : StableStepY s)
    (k : S.Key) (alg repo : String) (penv env₁ : List (String × String)) (henv : EnvExtends penv env₁)
    (signed : Step) (hsign : signStep S render k alg repo penv s = .ok signed) :
    ∃ j s' w', MarshalY.yStep signed = .ok j ∧ parseStep f (rereadJ j) = .ok (s', w') ∧
      VerifiesAll S parseSig (S.pubOf k) repo env₁ s' :=
  let ⟨hok, hdep⟩ := parseStep_stepOK f x s w hx hd h
  signed_steps_roundtripY_ok S render parseSig k alg repo penv env₁ hrender s hok hs f hdep henv signed hsign

/-- `SignSteps` on the steps of a parsed pipeline, `yaml.Marshal`, re-parse: every command step verifies. -/
theorem C02_signed_pipeline_verifies_after_yaml_roundtrip (render : S.Sig → String)
    (parseSig : String → Option S.Sig) (hrender : ∀ s, parseSig (render s) = some s)
    (v : Val) (p : Pipeline) (ws : List Warn) (hv : NoUMap v) (hd : KeysNodup v)
    (h : parsePipeline v = .ok (p, ws)) (hs : StablePipelineY p)
    (k : S.Key) (alg repo : String) (env₁ : List (String × String))
    (henv : EnvExtends (p.env.getD []) env₁)
    (signed : List Step) (hsign : signSteps S render k alg repo (p.env.getD []) (p.steps.getD []) = .ok signed) :
    ∃ j p' ws', MarshalY.yPipeline { p with steps := some signed } = .ok j ∧
      parsePipeline (rereadJ j) = .ok (p', ws') ∧
      VerifiesAllList S parseSig (S.pubOf k) repo env₁ (p'.steps.getD []) :=
  let ⟨j, p', ws', h1, h2, _, h4⟩ :=
    signed_pipeline_ok S render parseSig yamlLeg v p ws hv hd h hs.1 k alg repo env₁
      (signed_core_yaml S render parseSig k alg repo _ env₁ hrender henv) signed hsign
  ⟨j, p', ws', h1, h2, h4⟩

/-- …and the verification env may be the env block of the re-parsed pipeline itself (what an agent that only
    has the uploaded YAML does): the re-parsed block has the same entries (an empty block is omitted by the YAML
    leg and comes back absent, hence `getD []`), and its names are distinct because the document's keys are. -/
theorem C02_reparsed_yaml_env_extends (render : S.Sig → String)
    (parseSig : String → Option S.Sig) (hrender : ∀ s, parseSig (render s) = some s)
    (v : Val) (p : Pipeline) (ws : List Warn) (hv : NoUMap v) (hd : KeysNodup v)
    (h : parsePipeline v = .ok (p, ws)) (hs : StablePipelineY p)
    (k : S.Key) (alg repo : String)
    (signed : List Step) (hsign : signSteps S render k alg repo (p.env.getD []) (p.steps.getD []) = .ok signed) :
    ∃ j p' ws', MarshalY.yPipeline { p with steps := some signed } = .ok j ∧
      parsePipeline (rereadJ j) = .ok (p', ws') ∧ p'.env.getD [] = p.env.getD [] ∧
      VerifiesAllList S parseSig (S.pubOf k) repo (p'.env.getD []) (p'.steps.getD []) := by
  obtain ⟨j, p', ws', h1, h2, h3, h4⟩ := signed_pipeline_ok S render parseSig yamlLeg v p ws hv hd h hs.1
    k alg repo (p.env.getD []) (signed_core_yaml S render parseSig k alg repo _ _ hrender
      (parsePipeline_envExtends_self hd h)) signed hsign
  have he : p'.env.getD [] = p.env.getD [] := by rw [h3]; exact getD_normList _
  exact ⟨j, p', ws', h1, h2, he, by rw [he]; exact h4⟩

/-- From the YAML node graph (C07's model) to the verified re-parse, YAML leg. -/
theorem C02_document_signed_yaml_roundtrip (render : S.Sig → String)
    (parseSig : String → Option S.Sig) (hrender : ∀ x, parseSig (render x) = some x)
    (s : Yaml.Store) (root : Nat) (v : Val) (p : Pipeline) (ws : List Warn)
    (hsc : EndToEnd.ScalarStore s) (hdec : Yaml.decodeYAML s root = .ok v) (hp : parsePipeline v = .ok (p, ws))
    (hst : StablePipelineY p) (k : S.Key) (alg repo : String)
    (signed : List Step) (hsign : signSteps S render k alg repo (p.env.getD []) (p.steps.getD []) = .ok signed) :
    ∃ j p' ws', MarshalY.yPipeline { p with steps := some signed } = .ok j ∧
      parsePipeline (rereadJ j) = .ok (p', ws') ∧ p'.env.getD [] = p.env.getD [] ∧
      VerifiesAllList S parseSig (S.pubOf k) repo (p'.env.getD []) (p'.steps.getD []) :=
  have hshape := EndToEnd.decoded_tree_shape s root v hsc hdec
  C02_reparsed_yaml_env_extends S render parseSig hrender v p ws hshape.1 hshape.2 hp hst k alg repo signed hsign

/-! ### Non-vacuity: the example step of Props/C02.lean on the YAML leg -/

example : ∃ j kvs c', MarshalY.yCommand (attach toyScheme Example.renderToy
      (sign toyScheme Example.keyEx "toy-alg" Example.cEx "git@example.com:acme/app.git" Example.penvEx) Example.cEx) = .ok j ∧
      rereadJ j = .omap kvs ∧ parseCommand kvs = .ok c' ∧
      c'.signature = (attach toyScheme Example.renderToy
        (sign toyScheme Example.keyEx "toy-alg" Example.cEx "git@example.com:acme/app.git" Example.penvEx) Example.cEx).signature ∧
      StepVerifies toyScheme Example.parseToy (toyScheme.pubOf Example.keyEx) "git@example.com:acme/app.git"
        Example.env1Ex c' :=
  C02_signed_step_verifies_after_yaml_roundtrip toyScheme Example.renderToy Example.parseToy Example.parseToy_render
    Example.mEx Example.cEx Example.noUMap_mEx (by decide +kernel) Example.parse_mEx
    (Roundtrip.stableCommandY_of Example.stable_cEx) Example.keyEx "toy-alg" "git@example.com:acme/app.git"
    Example.penvEx Example.env1Ex Example.envExtends_ex

end GoPipeline.SignedRT
