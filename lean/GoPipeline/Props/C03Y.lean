/-
  C03, YAML leg — parse then `yaml.Marshal` yields the documented normal form with no data loss.
  The lemmas these statements are read off from are in `GoPipeline/Lemmas/Parse03Y.lean` (which builds on
  `Lemmas/Parse03.lean`, `Lemmas/OrderY.lean` and `Model/MarshalY.lean`).

  Every theorem of `Props/C03.lean` has its counterpart here, stated on the value tree handed to
  `yaml.Marshal` (`MarshalY.yPipeline`, `yCommand`, `yStep`, `yMatrix`, `yCache`). `yaml.Marshal` can fail (an
  inline key equal to a declared key); for parsed input it never does, so the statements about parsed command
  steps *conclude* `yCommand c = .ok (.umap kvs)` instead of assuming it.

  Where the YAML leg writes the same sub-value as the JSON leg the statement says so (plugins, step env,
  scalar fields, matrix setup, scalar / unknown / contents steps). Where it legitimately differs (header of
  `Model/MarshalY.lean`) the YAML shape is its own theorem:
    * `C03_adjustment_skip_kept_yaml`, `C03_adjustment_skip_legs_differ` — `skip` kept unless nil (F11);
    * `C03_cache_shapes_yaml`, `C03_cache_disabled_only_yaml` — a cache that is only disabled is `{disabled: true}`;
    * `C03_signature_nil_fields_yaml` — nil `signed_fields` is `[]`;
    * `C03_nil_steps_yaml`, `C03_group_nil_steps_yaml`, `C03_parsed_steps_never_nil` — nil step lists are `[]`;
    * `C03_empty_trigger_yaml` — a trigger without contents is `{}`;
    * `C03_empty_env_omitted_yaml` — an empty pipeline env block is omitted.
  `C03_legs_same_normal_form_command` / `C03_legs_same_iff`: for a parsed command step the two legs hand over
  the identical value tree exactly when none of the first three differences is met.
  Known gaps are those of `Props/C03.lean` (finding F7; unknown keys inside `signature`).
-/
import GoPipeline.Lemmas.Parse03Y
import GoPipeline.Lemmas.ValEq
namespace GoPipeline.Parse
open GoPipeline GoPipeline.Pipe GoPipeline.Marshal GoPipeline.Unm GoPipeline.Roundtrip GoPipeline.Order
open GoPipeline.MarshalY

/-! ### The counterparts of `Props/C03.lean` -/

/-- A bare step list becomes `steps` (and nothing else). -/
theorem C03_bare_list_becomes_steps_yaml (xs : List Val) (p : Pipeline) (ws : List Warn) (j : Val)
    (h : parsePipeline (.seq xs) = .ok (p, ws)) (hj : yPipeline p = .ok j) :
    ∃ js, j = .umap [("steps", .seq js)] ∧ js.length = xs.length := by
  obtain ⟨ss, ws', hp, rfl⟩ := parsePipeline_seq h
  unfold yPipeline at hj
  simp only at hj
  cases hm : ySteps ss with
  | error e => simp [hm] at hj
  | ok js =>
    simp only [hm] at hj
    refine ⟨js, ?_, ?_⟩
    · simp only [yStruct, Option.getD_none, List.find?_nil, List.nil_append, List.append_nil,
        Except.ok.injEq] at hj
      rw [← hj]
      simp [Marshal.umapOf, Marshal.umapInsert]
    · rw [ySteps_length ss js hm, parseSteps_length _ xs ss ws' hp]

/-- `command` / `commands` collapse into one newline-joined `command` (scalars stringified). -/
theorem C03_command_join_yaml (m : Entries) (c : CommandStep) (h : parseCommand m = .ok c) (v : Val)
    (hv : m.lookup "commands" = some v ∨ (m.lookup "commands" = none ∧ m.lookup "command" = some v)) :
    ∃ l kvs, strsOf v = .ok l ∧ yCommand c = .ok (.umap kvs) ∧
      kvs.lookup "command" = some (.str (joinLines (l.getD []))) := by
  obtain ⟨l, hl, hc⟩ := command_join m c h v hv
  obtain ⟨kvs, _, _, hj, hf⟩ := yCommand_parsed_fields h
  exact ⟨l, kvs, hl, hj, by rw [hf.command, hc]⟩

/-- `command` has no `omitempty`: it is written even when the document has neither key. -/
theorem C03_no_command_key_yaml (m : Entries) (c : CommandStep) (h : parseCommand m = .ok c)
    (h1 : m.lookup "commands" = none) (h2 : m.lookup "command" = none) :
    ∃ kvs, yCommand c = .ok (.umap kvs) ∧ kvs.lookup "command" = some (.str "") := by
  obtain ⟨kvs, _, _, hj, hf⟩ := yCommand_parsed_fields h
  exact ⟨kvs, hj, by rw [hf.command, no_command_key m c h h1 h2]⟩

/-- `name` fills `label` only when `label` is absent (an empty label is then omitted) … -/
theorem C03_label_from_name_yaml (m : Entries) (c : CommandStep) (h : parseCommand m = .ok c) (v : Val)
    (hl : m.lookup "label" = none) (hn : m.lookup "name" = some v) :
    ∃ s kvs, strOf v = .ok s ∧ yCommand c = .ok (.umap kvs) ∧
      kvs.lookup "label" = (if s = "" then none else some (.str s)) := by
  obtain ⟨kvs, _, _, hj, hf⟩ := yCommand_parsed_fields h
  exact ⟨c.label, kvs, label_from_name m c h v hl hn, hj, hf.label⟩

/-- … otherwise `label` is the label and `name` stays where it was (an unknown key). -/
theorem C03_label_primary_yaml (m : Entries) (c : CommandStep) (h : parseCommand m = .ok c) (v : Val)
    (hl : m.lookup "label" = some v) (hm : (keysOf m).Nodup) :
    ∃ s kvs, strOf v = .ok s ∧ yCommand c = .ok (.umap kvs) ∧
      kvs.lookup "label" = (if s = "" then none else some (.str s)) ∧
      kvs.lookup "name" = m.lookup "name" := by
  obtain ⟨hc, hname⟩ := label_primary m c h v hl hm
  obtain ⟨_, _, _, _, _, hrem⟩ := parseCommand_ok h
  obtain ⟨kvs, _, _, hj, hf⟩ := yCommand_parsed_fields h
  obtain ⟨_, e, hn, _⟩ := yCommand_other hj (hrem ▸ nodup_keys_remMap _) (k := "name") (by simp)
  cases e
  exact ⟨c.label, kvs, hc, hj, hf.label, hn.trans hname⟩

/-- `id` / `identifier` fill `key` only when `key` is absent, `id` first. -/
theorem C03_key_from_aliases_yaml (m : Entries) (c : CommandStep) (h : parseCommand m = .ok c)
    (hk : m.lookup "key" = none) :
    ∃ s kvs, yCommand c = .ok (.umap kvs) ∧ kvs.lookup "key" = (if s = "" then none else some (.str s)) ∧
      (∀ v, m.lookup "id" = some v → strOf v = .ok s) ∧
      (∀ v, m.lookup "id" = none → m.lookup "identifier" = some v → strOf v = .ok s) ∧
      (m.lookup "id" = none → m.lookup "identifier" = none → s = "") := by
  obtain ⟨kvs, _, _, hj, hf⟩ := yCommand_parsed_fields h
  exact ⟨c.key, kvs, hj, hf.key, key_from_aliases m c h hk⟩

/-- Every other key of a command step appears in the value tree exactly once with its input value, unchanged. -/
theorem C03_command_other_keys_preserved_yaml (m : Entries) (c : CommandStep) (h : parseCommand m = .ok c)
    (hm : (keysOf m).Nodup) (k : String) (hk : k ∉ commandKeys) :
    ∃ kvs, yCommand c = .ok (.umap kvs) ∧ kvs.lookup k = m.lookup k ∧ (kvs.map (·.1)).Nodup :=
  parsed_command_other_keys_yaml m c h hm k hk

/-- Wait / input / trigger steps written as mappings keep every key and value. -/
theorem C03_contents_steps_preserved_yaml (m : Entries) (hm : (keysOf m).Nodup) (hne : m ≠ []) (k : String) :
    (∃ kvs, yStep (.wait "" (some (umapOf m))) = .ok (.umap kvs) ∧ kvs.lookup k = m.lookup k) ∧
    (∃ kvs, yStep (.input "" (some (umapOf m))) = .ok (.umap kvs) ∧ kvs.lookup k = m.lookup k) ∧
    (∃ kvs, yStep (.trigger (some (umapOf m))) = .ok (.umap kvs) ∧ kvs.lookup k = m.lookup k) := by
  have hl : (umapOf m).length ≠ 0 := by
    intro e
    exact umapOf_ne_nil hne (List.length_eq_zero_iff.1 e)
  have hk := lookup_umapOf_nodup hm k
  refine ⟨⟨umapOf m, ?_, hk⟩, ⟨umapOf m, ?_, hk⟩, ⟨umapOf m, ?_, hk⟩⟩
  · simp [yStep_wait, lenUMap, hl, umapV]
  · simp [yStep_input, lenUMap, hl, umapV]
  · simp [yStep_trigger]

/-- Scalar-step shorthands and unknown steps are handed over verbatim — the same values on both legs. -/
theorem C03_scalar_and_unknown_verbatim_yaml (s : String) (v : Val) (hs : s ≠ "") :
    yStep (.wait s none) = .ok (.str s) ∧ yStep (.input s none) = .ok (.str s) ∧ yStep (.unknown v) = .ok v ∧
    mStep (.wait s none) = .ok (.str s) ∧ mStep (.input s none) = .ok (.str s) ∧ mStep (.unknown v) = .ok v := by
  simp [yStep_wait, yStep_input, yStep_unknown, mStep_wait, mStep_input, mStep_unknown, hs]

/-- Plugins become an ordered list of single-entry objects keyed by canonical source, empty configs ⇒ null:
    `(*Plugin).MarshalYAML` writes the very value the JSON leg writes (`mPlugins`). -/
theorem C03_plugins_normal_form_yaml (m : Entries) (c : CommandStep) (h : parseCommand m = .ok c) (v : Val)
    (l : List (Option Plugin)) (hv : m.lookup "plugins" = some v) (hl : parsePlugins v = .ok (some l)) :
    ∃ ky kj, yCommand c = .ok (.umap ky) ∧ mCommand c = .umap kj ∧
      ky.lookup "plugins" = some (.seq (l.map fun
        | some p => Val.umap [(fullSource p.source,
            match p.config with | .umap [] => Val.null | .seq [] => .null | c => c)]
        | none => .null)) ∧
      kj.lookup "plugins" = ky.lookup "plugins" ∧ ∀ p ∈ l, p ≠ none := plugins_normal_form_yaml m c h v l hv hl

/-- Plugins written as one mapping: the list is in the mapping's key order. -/
theorem C03_plugins_order_from_mapping_yaml (m : Entries) (c : CommandStep) (h : parseCommand m = .ok c)
    (kvs : List (String × Val)) (hv : m.lookup "plugins" = some (.omap kvs)) (hne : kvs ≠ []) :
    ∃ ky, yCommand c = .ok (.umap ky) ∧
      ky.lookup "plugins" = some (.seq (kvs.map fun (k, v) =>
        Val.umap [(fullSource k, match toMapRec v with | .umap [] => Val.null | .seq [] => .null | c => c)])) := by
  obtain ⟨ky, _, hy, _, hp, _, _⟩ := plugins_normal_form_yaml m c h _ _ hv (plugins_from_mapping kvs hne)
  refine ⟨ky, hy, ?_⟩
  rw [hp, List.map_map]
  rfl

/-- Pipeline env scalars become strings, in document order (a non-empty block; the empty one is omitted,
    `C03_empty_env_omitted_yaml`). -/
theorem C03_env_scalars_become_strings_yaml (m : Entries) (kvs : List (String × Val)) (p : Pipeline)
    (ws : List Warn) (j : Val) (henv : m.lookup "env" = some (.omap kvs)) (hne : kvs ≠ [])
    (hp : parsePipeline (.omap m) = .ok (p, ws)) (hj : yPipeline p = .ok j) :
    ∃ l out, List.Forall₂ (fun kv e => e.1 = kv.1 ∧ strOf kv.2 = .ok e.2) kvs l ∧
      j = .umap out ∧ out.lookup "env" = some (.omap (l.map fun (k, v) => (k, .str v))) :=
  env_scalars_become_strings_yaml m kvs p ws j henv hne hp hj

/-- Step env scalars become strings, as a Go map; an empty block is omitted; the same value on both legs. -/
theorem C03_step_env_yaml (m : Entries) (c : CommandStep) (h : parseCommand m = .ok c)
    (kvs : List (String × Val)) (hv : m.lookup "env" = some (.omap kvs)) :
    ∃ l ky kj, List.Forall₂ (fun kv e => e.1 = kv.1 ∧ strOf kv.2 = .ok e.2) kvs l ∧
      yCommand c = .ok (.umap ky) ∧ mCommand c = .umap kj ∧
      ky.lookup "env" = (if l = [] then none else some (.umap ((umapOf l).map fun (k, v) => (k, .str v)))) ∧
      kj.lookup "env" = ky.lookup "env" := by
  obtain ⟨_, _, _, _, _, _, _, henv, _⟩ := parseCommand_fields h
  have hf : fieldOf (taken (remainder m Gen.struct_CommandStep_UnmarshalOrdered_local0) Gen.struct_CommandStep)
      "Env" = some (.omap kvs) := by
    rw [fieldOf_env, lookup_rest (by simp), hv]
  rw [optField_some hf] at henv
  simp only [parseEnvMap, map_ok_iff] at henv
  obtain ⟨l, hl, hce⟩ := henv
  obtain ⟨kj, hkj, fj⟩ := mCommand_fields c (parseCommand_free h).1
  obtain ⟨ky, _, _, hj, fy⟩ := yCommand_parsed_fields h
  refine ⟨l, ky, kj, ssElems_forall₂ kvs l hl, hj, hkj, ?_, by rw [fj.env, fy.env]⟩
  rw [fy.env, hce]
  by_cases e : l = []
  · subst e; rfl
  · have : (umapOf l).length ≠ 0 := fun hz => e ((umapOf_eq_nil_iff l).1 (List.length_eq_zero_iff.1 hz))
    simp [lenUMap, envV, this, e]

/-- The matrix list shorthand: the list of stringified values, on both legs. -/
theorem C03_matrix_list_shorthand_yaml (xs : List Val) (m : Matrix) (h : parseMatrix (.seq xs) = .ok (some m))
    (hne : xs ≠ []) : ∃ l, strsOfSeq xs = .ok l ∧ yMatrix m = .ok (strsV l) ∧ mMatrix m = strsV l := by
  simp only [parseMatrix, map_ok_iff, Option.some.injEq] at h
  obtain ⟨l, hl, rfl⟩ := h
  refine ⟨l, hl, ?_⟩
  have hlen := strsElems_length xs l hl
  cases l with
  | nil =>
    exfalso
    exact hne (List.length_eq_zero_iff.1 hlen.symm)
  | cons a t => simp [yMatrix, mMatrix, isSimple, lenUMap, mSetup]

/-- The matrix in general: the simple one is its setup (`mSetup`, as on the JSON leg); otherwise a mapping
    with that setup and, when there are any, the encoded adjustments. -/
theorem C03_matrix_fields_yaml (mx : Matrix) (j : Val) (h : yMatrix mx = .ok j) :
    (isSimple mx = true → j = mSetup mx.setup ∧ mMatrix mx = mSetup mx.setup) ∧
    (isSimple mx = false → ∃ kvs avs, j = .umap kvs ∧ yAdjustments (mx.adjustments.getD []) = .ok avs ∧
      kvs.lookup "setup" = some (mSetup mx.setup) ∧
      kvs.lookup "adjustments" = (if (mx.adjustments.getD []).isEmpty then none else some (.seq avs))) :=
  matrix_fields_yaml mx j h

/-- `setup` of a matrix written as a mapping is that same value on the JSON leg. -/
theorem C03_matrix_setup_json (mx : Matrix) (hf : Free Gen.struct_Matrix mx.rem) (hs : isSimple mx = false) :
    ∃ kvs, mMatrix mx = .umap kvs ∧ kvs.lookup "setup" = some (mSetup mx.setup) :=
  let ⟨kvs, h1, h2, _⟩ := matrix_fields_json mx hf hs
  ⟨kvs, h1, h2⟩

/-- The cache shorthands. `cache: false` is where the legs differ: `{disabled: true}` here, `false` there. -/
theorem C03_cache_shorthands_yaml (s : String) (xs : List Val) :
    (∃ c, parseCache (.str s) = .ok (some c) ∧ yCache c = .ok (.umap [("paths", strsV [s])]) ∧
      mCache c = .umap [("paths", strsV [s])]) ∧
    (∃ c, parseCache (.bool false) = .ok (some c) ∧ yCache c = .ok (.umap [("disabled", .bool true)]) ∧
      mCache c = .bool false) ∧
    (∃ c, parseCache (.bool true) = .ok (some c) ∧ yCache c = .ok (.umap []) ∧ mCache c = .umap []) ∧
    (∀ l, strsOfSeq xs = .ok l → l ≠ [] → ∃ c, parseCache (.seq xs) = .ok (some c) ∧
      yCache c = .ok (.umap [("paths", strsV l)]) ∧ mCache c = .umap [("paths", strsV l)]) := by
  refine ⟨⟨_, rfl, ?_, ?_⟩, ⟨_, rfl, ?_, ?_⟩, ⟨_, rfl, ?_, ?_⟩, fun l hl hne => ?_⟩
  · simp [yCache, yStruct, Marshal.umapOf, Marshal.umapInsert]
  · simp [mCache, inlineFriendly, Marshal.umapOf, Marshal.umapInsert]
  · simp [yCache, yStruct, Marshal.umapOf, Marshal.umapInsert]
  · simp [mCache]
  · simp [yCache, yStruct, Marshal.umapOf]
  · simp [mCache, inlineFriendly, Marshal.umapOf]
  · refine ⟨{ disabled := false, name := "", paths := some l, size := "", rem := none }, ?_, ?_, ?_⟩
    · simp only [parseCache, hl]; rfl
    · have : l.isEmpty = false := by simpa using hne
      simp [yCache, yStruct, Marshal.umapOf, Marshal.umapInsert, this]
    · have : l.isEmpty = false := by simpa using hne
      simp [mCache, inlineFriendly, Marshal.umapOf, Marshal.umapInsert, this]

/-! ### Where the YAML leg has its own shape -/

/-- An adjustment: `with` in its canonical shape, `skip` kept unless nil. -/
theorem C03_adjustment_skip_kept_yaml (a : Adjustment) (j : Val) (h : yAdjustment a = .ok j) :
    ∃ kvs, j = .umap kvs ∧ kvs.lookup "with" = some (mWith a.with_) ∧
      kvs.lookup "skip" = (match a.skip with | .null => none | v => some v) := by
  unfold yAdjustment at h
  obtain ⟨e, kvs, hk, h1, h2⟩ := adj_fields a (yIsZeroAny a.skip) (yStruct_inv h).1
  rw [e, hk] at h
  cases h
  exact ⟨kvs, rfl, h1, h2.trans (by cases a.skip <;> rfl)⟩

/-- An empty-ish `skip` (`false`, `""`, `0`, `[]`) is dropped by the JSON leg and kept by the YAML leg (F11). -/
theorem C03_adjustment_skip_legs_differ (a : Adjustment) (hf : Free Gen.struct_MatrixAdjustment a.rem)
    (hs : emptyishSkip a.skip = true) :
    ∃ kj ky, mAdjustment a = .umap kj ∧ yAdjustment a = .ok (.umap ky) ∧
      kj.lookup "skip" = none ∧ ky.lookup "skip" = some a.skip := adjustment_skip_legs_differ a hf hs

/-- The cache is always a mapping of its non-empty fields (`Cache` has no `MarshalYAML`). -/
theorem C03_cache_shapes_yaml (k : Cache) (j : Val) (h : yCache k = .ok j) :
    ∃ kvs, j = .umap kvs ∧
      kvs.lookup "disabled" = (if k.disabled then some (.bool true) else none) ∧
      kvs.lookup "name" = (if k.name = "" then none else some (.str k.name)) ∧
      kvs.lookup "paths" = (if (k.paths.getD []).isEmpty then none else some (strsV (k.paths.getD []))) ∧
      kvs.lookup "size" = (if k.size = "" then none else some (.str k.size)) := cache_fields_yaml k j h

/-- The cache that is only disabled: `{disabled: true}`, where the JSON leg writes `false`. -/
theorem C03_cache_disabled_only_yaml (k : Cache) (hd : disabledOnly k = true) :
    yCache k = .ok (.umap [("disabled", .bool true)]) ∧ mCache k = .bool false := cache_disabled_only k hd

/-- Any other cache: the same value on both legs. -/
theorem C03_cache_same_legs (k : Cache) (hf : Free Gen.struct_Cache k.rem) (hd : disabledOnly k = false) :
    yCache k = .ok (mCache k) := yCache_eq k hf hd

/-- A signature with nil `signed_fields`: `[]`, where the JSON leg writes `null`. -/
theorem C03_signature_nil_fields_yaml (s : Signature) (h : s.signedFields = none) :
    ySignature s = .umap [("algorithm", .str s.algorithm), ("signed_fields", .seq []), ("value", .str s.value)] ∧
    mSignature s = .umap [("algorithm", .str s.algorithm), ("signed_fields", .null), ("value", .str s.value)] :=
  signature_nil_fields s h

/-- A nil step list is written `steps: []` … -/
theorem C03_nil_steps_yaml (p : Pipeline) (j : Val) (hs : p.steps = none) (h : yPipeline p = .ok j) :
    ∃ kvs, j = .umap kvs ∧ kvs.lookup "steps" = some (.seq []) := by
  obtain ⟨kvs, svs, rfl, hsv, h1, _⟩ := yPipeline_fields h
  rw [hs] at hsv
  cases hsv
  exact ⟨kvs, rfl, h1⟩

/-- … where the JSON leg writes `steps: null` … -/
theorem C03_nil_steps_json (p : Pipeline) (hs : p.steps = none) (hr : p.rem = none) :
    ∃ kvs, mPipeline p = .ok (.umap kvs) ∧ kvs.lookup "steps" = some .null := by
  unfold mPipeline
  rw [hs, hr]
  simp only [inlineFriendly, Option.getD_none, List.filter_nil, List.nil_append]
  refine ⟨_, rfl, ?_⟩
  cases p.env <;> simp [Marshal.umapOf, Marshal.umapInsert, List.lookup]

/-- … also inside a group step … -/
theorem C03_group_nil_steps_yaml (k : String) (g : Option String) (r : UMap Val) (j : Val)
    (h : yStep (.group k g none r) = .ok j) : ∃ kvs, j = .umap kvs ∧ kvs.lookup "steps" = some (.seq []) := by
  rw [yStep_group_none] at h
  obtain ⟨hf, rfl⟩ := yStruct_inv h
  refine ⟨_, rfl, ?_⟩
  rw [lookup_struct_declared (k := "steps") hf (by split <;> simp) (by simp [declaredKeys_grp])]
  by_cases e : k = "" <;> simp [e, List.lookup]

/-- … but the parser never leaves the step list of a pipeline nil. -/
theorem C03_parsed_steps_never_nil (v : Val) (p : Pipeline) (ws : List Warn) (h : parsePipeline v = .ok (p, ws)) :
    p.steps ≠ none := by
  unfold parsePipeline at h
  simp only at h
  split at h
  · split at h
    · cases h
    · rename_i steps _ _
      split at h
      · cases h
      · cases steps <;> (simp only [Except.ok.injEq, Prod.mk.injEq] at h; rw [← h.1]; simp)
  · split at h
    · cases h
    · simp only [Except.ok.injEq, Prod.mk.injEq] at h
      rw [← h.1]; simp
  · cases h

/-- A trigger step without contents: `{}`, where the JSON leg writes `null`. -/
theorem C03_empty_trigger_yaml : yStep (.trigger none) = .ok (.umap []) ∧ mStep (.trigger none) = .ok .null := ⟨rfl, rfl⟩

/-- An empty pipeline env block is not written (the JSON leg writes `"env":{}`). -/
theorem C03_empty_env_omitted_yaml (p : Pipeline) (j : Val) (he : p.env = some [])
    (h : yPipeline p = .ok j) : ∃ kvs, j = .umap kvs ∧ kvs.lookup "env" = none := env_omitted_yaml p j (.inr he) h

/-! ### The two legs -/

/-- Every declared key of a command step's value tree (no key of the inline map can stand in for an omitted
    field: that would have been an encoding error). -/
theorem C03_command_fields_yaml (c : CommandStep) (j : Val) (h : yCommand c = .ok j) :
    ∃ kvs mv cv, j = .umap kvs ∧ yMatrixEntry c = .ok mv ∧ yCacheEntry c = .ok cv ∧
      kvs.lookup "key" = (if c.key = "" then none else some (.str c.key)) ∧
      kvs.lookup "label" = (if c.label = "" then none else some (.str c.label)) ∧
      kvs.lookup "command" = some (.str c.command) ∧
      kvs.lookup "plugins" =
        (if (c.plugins.getD []).isEmpty then none else some (mPlugins (c.plugins.getD []))) ∧
      kvs.lookup "env" = (if lenUMap c.env = 0 then none else some (envV c.env)) ∧
      kvs.lookup "signature" = c.signature.map ySignature ∧
      kvs.lookup "matrix" = mv.lookup "matrix" ∧
      kvs.lookup "cache" = cv.lookup "cache" := by
  obtain ⟨kvs, mv, cv, rfl, hmv, hcv, hf⟩ := yCommand_fields h
  exact ⟨kvs, mv, cv, rfl, hmv, hcv, hf.key, hf.label, hf.command, hf.plugins, hf.env,
    hf.signature.trans (ySigEntry_lookup c), hf.matrix, hf.cache⟩

/-- `key`, `label`, `command`, `plugins`, `env` of a parsed command step: the same on both legs, always. -/
theorem C03_legs_same_simple_fields (m : Entries) (c : CommandStep) (h : parseCommand m = .ok c) (k : String)
    (hk : k ∈ ["key", "label", "command", "plugins", "env"]) :
    ∃ kj ky, mCommand c = .umap kj ∧ yCommand c = .ok (.umap ky) ∧ kj.lookup k = ky.lookup k := by
  obtain ⟨kj, hkj, fj⟩ := mCommand_fields c (parseCommand_free h).1
  obtain ⟨ky, _, _, hj, fy⟩ := yCommand_parsed_fields h
  refine ⟨kj, ky, hkj, hj, ?_⟩
  simp only [List.mem_cons, List.not_mem_nil, or_false] at hk
  rcases hk with rfl | rfl | rfl | rfl | rfl
  · rw [fj.key, fy.key]
  · rw [fj.label, fy.label]
  · rw [fj.command, fy.command]
  · rw [fj.plugins, fy.plugins]
  · rw [fj.env, fy.env]

/-- Wait, input, unknown steps and triggers with contents: the two legs write the same value or fail together. -/
theorem C03_legs_same_simple_steps (s : String) (c : UMap Val) (kvs : List (String × Val)) (v j : Val) :
    (yStep (.wait s c) = .ok j ↔ mStep (.wait s c) = .ok j) ∧
    (yStep (.input s c) = .ok j ↔ mStep (.input s c) = .ok j) ∧
    (yStep (.trigger (some kvs)) = .ok j ↔ mStep (.trigger (some kvs)) = .ok j) ∧
    (yStep (.unknown v) = .ok j ↔ mStep (.unknown v) = .ok j) := by
  refine ⟨?_, ?_, ?_, ?_⟩
  · rw [yStep_wait, mStep_wait]
    simp
  · rw [yStep_input, mStep_input]
    by_cases h1 : s = "" <;> by_cases h2 : lenUMap c = 0 <;> simp [h1, h2]
  · rw [yStep_trigger, mStep_trigger]
    simp [umapV]
  · rw [yStep_unknown, mStep_unknown]
    simp

/-- For a parsed command step whose matrix has no adjustment with an empty-ish `skip`, whose cache is not
    "disabled only" and whose signature (if any) has non-nil `signed_fields` (`SameLegs`), `yaml.Marshal` is
    handed literally the value tree `json.Marshal` is handed. -/
theorem C03_legs_same_normal_form_command (m : Entries) (c : CommandStep) (h : parseCommand m = .ok c)
    (hmx : ∀ mx, c.matrix = some mx → NoEmptyishSkip mx)
    (hca : ∀ k, c.cache = some k → disabledOnly k = false)
    (hsg : ∀ s, c.signature = some s → s.signedFields ≠ none) :
    yCommand c = .ok (mCommand c) := yCommand_eq_json c (parseCommand_free h) ⟨hmx, hca, hsg⟩

/-- The three side conditions are exactly the differences: outside them the value trees do differ. -/
theorem C03_legs_same_iff (m : Entries) (c : CommandStep) (h : parseCommand m = .ok c) :
    yCommand c = .ok (mCommand c) ↔ SameLegs c := legs_same_iff m c h

/-- The JSON leg's fixpoint side condition on a matrix (`Roundtrip.StableMatrix`) implies the first one. -/
theorem C03_noEmptyishSkip_of_stable (mx : Matrix) (h : StableMatrix mx) : NoEmptyishSkip mx :=
  fun l hl a ha => (h.1 l hl a ha).1

/-! Non-vacuity -/

/-- The example of `Props/C03.lean`, through to the YAML value tree. -/
example : ∃ c, parseCommand [("name", .str "n"), ("commands", .seq [.str "a", .int 2]), ("agents", .omap [("q", .str "x")]), ("id", .str "i")] = .ok c ∧
    yCommand c = .ok (.umap [("agents", .omap [("q", .str "x")]), ("command", .str "a\n2"), ("key", .str "i"), ("label", .str "n")]) ∧
    yCommand c = .ok (mCommand c) := by decide +kernel

/-- A step inside all three side conditions (a kept `skip: true`, a cache with paths, a signature with fields). -/
example :
    let c : CommandStep :=
      { key := "", label := "", command := "x", plugins := none, env := none,
        signature := some { algorithm := "a", signedFields := some ["command"], value := "v" },
        matrix := some { setup := some [("", some ["p"])],
                         adjustments := some [some { with_ := some [("", "p")], skip := .bool true, rem := none }],
                         rem := none },
        cache := some { disabled := true, name := "", paths := some ["d"], size := "", rem := none }, rem := none }
    parseCommand [("command", .str "x"),
        ("signature", .omap [("algorithm", .str "a"), ("signed_fields", .seq [.str "command"]), ("value", .str "v")]),
        ("matrix", .omap [("setup", .seq [.str "p"]), ("adjustments", .seq [.omap [("with", .str "p"), ("skip", .bool true)]])]),
        ("cache", .omap [("disabled", .bool true), ("paths", .seq [.str "d"])])] = .ok c ∧
      SameLegs c ∧ yCommand c = .ok (mCommand c) := by
  refine ⟨rfl, ?_, rfl⟩
  simp [SameLegs, NoEmptyishSkip, disabledOnly, emptyishSkip, isEmptyAny]

/-- `skip: false` — dropped by the JSON leg, kept by the YAML leg. -/
example : ∃ c, parseCommand [("command", .str "x"), ("matrix", .omap [("setup", .seq [.str "a"]),
      ("adjustments", .seq [.omap [("with", .str "a"), ("skip", .bool false)]])])] = .ok c ∧
    yCommand c = .ok (.umap [("command", .str "x"), ("matrix", .umap [
      ("adjustments", .seq [.umap [("skip", .bool false), ("with", .str "a")]]), ("setup", .seq [.str "a"])])]) ∧
    mCommand c = .umap [("command", .str "x"), ("matrix", .umap [
      ("adjustments", .seq [.umap [("with", .str "a")]]), ("setup", .seq [.str "a"])])] := by decide +kernel

/-- `cache: false`. -/
example : ∃ c, parseCommand [("command", .str "x"), ("cache", .bool false)] = .ok c ∧
    yCommand c = .ok (.umap [("cache", .umap [("disabled", .bool true)]), ("command", .str "x")]) ∧
    mCommand c = .umap [("cache", .bool false), ("command", .str "x")] := by decide +kernel

/-- A signature without `signed_fields`. -/
example : ∃ c, parseCommand [("command", .str "x"), ("signature", .omap [("algorithm", .str "a"), ("value", .str "v")])] = .ok c ∧
    yCommand c = .ok (.umap [("command", .str "x"),
      ("signature", .umap [("algorithm", .str "a"), ("signed_fields", .seq []), ("value", .str "v")])]) ∧
    mCommand c = .umap [("command", .str "x"),
      ("signature", .umap [("algorithm", .str "a"), ("signed_fields", .null), ("value", .str "v")])] := by decide +kernel

/-- Nil steps and an empty env block at pipeline level; an empty trigger. -/
example : yPipeline { steps := none, env := some [], rem := none } = .ok (.umap [("steps", .seq [])]) ∧
    mPipeline { steps := none, env := some [], rem := none } = .ok (.umap [("env", .omap []), ("steps", .null)]) := by
  decide +kernel

/-- A step list with a scalar step, an unknown step, a command step, an empty trigger and a group with a nil
    step list. -/
example : yPipeline { steps := some [.wait "wait" none, .unknown (.str "zzz"),
      .command { key := "", label := "", command := "x", plugins := none, env := none, signature := none,
                 matrix := none, cache := none, rem := none },
      .trigger none, .group "" (some "g") none none], env := none, rem := none } =
    .ok (.umap [("steps", .seq [.str "wait", .str "zzz", .umap [("command", .str "x")], .umap [],
      .umap [("group", .str "g"), ("steps", .seq [])]])]) := by decide +kernel

/-- The hypotheses of `C03_bare_list_becomes_steps_yaml` are satisfiable. -/
example : parsePipeline (.seq []) = .ok ({ steps := some [], env := none, rem := none }, []) ∧
    yPipeline { steps := some [], env := none, rem := none } = .ok (.umap [("steps", .seq [])]) := by
  refine ⟨?_, rfl⟩
  simp [parsePipeline, parseSteps_nil]

/-- Plugins and step env of a parsed step: the same values on both legs. -/
example : ∃ c, parseCommand [("command", .str "x"), ("env", .omap [("B", .int 1), ("A", .bool true)]),
      ("plugins", .seq [.str "a#v1", .omap [("b#v2", .omap [])]])] = .ok c ∧
    yCommand c = .ok (.umap [("command", .str "x"), ("env", .umap [("A", .str "true"), ("B", .str "1")]),
      ("plugins", .seq [.umap [(fullSource "a#v1", .null)], .umap [(fullSource "b#v2", .null)]])]) ∧
    yCommand c = .ok (mCommand c) := by decide +kernel

end GoPipeline.Parse
