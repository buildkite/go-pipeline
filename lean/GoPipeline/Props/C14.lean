/-
  C14 — the canonical signing payload is deterministic, order-insensitive and injective.
  The lemmas the statements rest on are in `GoPipeline/Lemmas/Jcs.lean` (the serialiser) and at the head of
  `GoPipeline/Lemmas/Signing.lean` (the payload).
-/
import GoPipeline.Lemmas.Signing
namespace GoPipeline.Signing
open GoPipeline GoPipeline.Pipe GoPipeline.Marshal GoPipeline.Jcs

/-! ### The serialiser is injective -/

/-- Two well-formed JSON values with the same serialisation are the same value: no characters can
    move between adjacent fields, between a key and its value, or between nesting levels. -/
theorem C14_ser_injective (a b : J) (ha : WF a) (hb : WF b) (h : ser a = ser b) : a = b :=
  ser_injective a b ha hb h

/-- Canonicalisation forgets member order and nothing else.  The `KeysDistinct` hypotheses are not used: cite
    `Jcs.jcs_injective`, which has none. -/
theorem C14_jcs_injective (a b : J) (ha : WF a) (hb : WF b) (hka : KeysDistinct a) (hkb : KeysDistinct b)
    (h : jcs a = jcs b) : Equiv a b :=
  (fun _ _ => jcs_injective a b ha hb h) hka hkb

/-- Order-insensitive: values equal up to member order at every depth have the same bytes. -/
theorem C14_jcs_order_insensitive (a b : J) (hka : KeysDistinct a) (h : Equiv a b) : jcs a = jcs b :=
  jcs_order_insensitive a b hka h

/-! ### The payload -/

/-- Equal payloads ⇒ equal algorithm name and, field by field, equal values up to member order;
    in particular the two value maps have the same field names (`env::K` entries included).
    Only the second map needs distinct names (`hk₁` is not used): cite `payload_injective`. -/
theorem C14_payload_injective (alg₁ alg₂ : String) (v₁ v₂ : List (String × Val))
    (hw₁ : WFMembers (valJKVs v₁)) (hw₂ : WFMembers (valJKVs v₂))
    (hk₁ : KeysDistinct (.obj (valJKVs v₁))) (hk₂ : KeysDistinct (.obj (valJKVs v₂)))
    (h : payload alg₁ v₁ = payload alg₂ v₂) :
    alg₁ = alg₂ ∧ ∀ f : String,
      (match v₁.lookup f, v₂.lookup f with
       | some x, some y => Equiv (valJ x) (valJ y)
       | none, none => True
       | _, _ => False) :=
  (fun _ => payload_injective alg₁ alg₂ v₁ v₂ hw₁ hw₂ hk₂ h) hk₁

/-- The payload does not depend on the order in which the value map is populated / iterated. -/
theorem C14_payload_order_insensitive (alg : String) (v₁ v₂ : List (String × Val))
    (hk : KeysDistinct (.obj (valJKVs v₁))) (hp : v₁.Perm v₂) : payload alg v₁ = payload alg v₂ := by
  unfold payload
  apply jcs_order_insensitive
  · simp only [KeysDistinct, KeysDistinctMembers, List.map_cons, List.map_nil, List.nodup_cons, List.mem_cons,
      List.not_mem_nil, or_false, not_false_eq_true, List.nodup_nil, and_true, true_and] at hk ⊢
    exact ⟨alg_ne_values, hk⟩
  · refine .obj (.refl _) (.cons (equiv_refl _) (.cons ?_ .nil))
    refine .obj ?_ (equivMembers_refl _)
    rw [valJKVs_eq, valJKVs_eq]
    exact hp.map _

/-- Strings are carried faithfully: equal up to member order means equal for strings. -/
theorem C14_string_field (a b : String) (h : Equiv (valJ (.str a)) (valJ (.str b))) : a = b :=
  str_field a b h

/-- An array is carried in order: equal up to member order means elementwise so, same length, same order
    (so reordering plugins changes the payload). -/
theorem C14_array_field (xs ys : List Val) (h : Equiv (valJ (.seq xs)) (valJ (.seq ys))) :
    List.Forall₂ (fun x y => Equiv (valJ x) (valJ y)) xs ys := by
  simp only [valJ] at h
  cases h with
  | arr hl =>
    induction xs generalizing ys with
    | nil =>
      cases ys with
      | nil => exact .nil
      | cons _ _ => cases hl
    | cons x r ih =>
      cases ys with
      | nil => cases hl
      | cons y s =>
        cases hl with
        | cons h1 h2 => exact .cons h1 (ih s h2)

/-! ### Invariances the property lists -/

/-- nil versus empty env / plugins / matrix. -/
theorem C14_nil_vs_empty :
    envField none = envField (some []) ∧ pluginsField none = pluginsField (some []) ∧
    ∀ m : Matrix, matrixIsEmpty m = true → matrixField (some m) = matrixField none := by
  refine ⟨rfl, rfl, fun m hm => ?_⟩
  simp [matrixField, hm]

/-- Equivalent plugin source spellings: replacing a source by its canonical form does not change
    what is signed (idempotence of canonicalisation, C17).
    The domain hypothesis is not used: cite `source_spelling_any` (`C14_source_spelling_any`). -/
theorem C14_source_spelling (p : Plugin)
    (hd : (∀ c ∈ p.source.toList, PluginSrc.isDomChar c = true) ∧
          ((PluginSrc.cutHash p.source.toList).2 = [] ∨
           ∀ comp ∈ PluginSrc.splitOn '/' (PluginSrc.cutHash p.source.toList).2, comp ≠ [] ∧ comp ≠ ['.'] ∧ comp ≠ ['.', '.'])) :
    mPlugin { p with source := fullSource p.source } = mPlugin p :=
  (fun _ => source_spelling_any p) hd

/-- The same for every source, documented form or not: since finding F17 was fixed in the code (commit
    3ced888) canonicalisation is idempotent for every string (`Marshal.fullSource_idem`), so the domain
    hypothesis of `C14_source_spelling` is not needed. -/
theorem C14_source_spelling_any (p : Plugin) :
    mPlugin { p with source := fullSource p.source } = mPlugin p := source_spelling_any p

/-- The `env::` namespace cannot collide with an object field name, and distinct variable names
    give distinct field names: step env and pipeline env entries cannot be confused. -/
theorem C14_env_namespace (k : String) :
    (envNamespacePrefix ++ k) ∉ mandatoryFields ∧
    ∀ k', envNamespacePrefix ++ k = envNamespacePrefix ++ k' → k = k' := env_namespace k

/-! Non-vacuity / boundary-shift examples -/
example : ser (.obj [("a".toList, .str "bc".toList)]) ≠ ser (.obj [("ab".toList, .str "c".toList)]) := by decide +kernel
example : jcs (.obj [("b".toList, .num ['1']), ("a".toList, .null)]) = jcs (.obj [("a".toList, .null), ("b".toList, .num ['1'])]) := by decide +kernel
example : WF (.obj [("b".toList, .num ['1']), ("a".toList, .arr [.str [], .bool true])]) := by
  simp [WF, WFMembers, WFList, NumOK, isNumChar]

end GoPipeline.Signing
