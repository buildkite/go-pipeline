/-
  C09 — the normal form is a fixpoint, model level, for every pipeline in the image of the parser and for
  both output formats (JSON and YAML); the stand-alone decoders for one command step and for a plugin
  list are the same functions. Statements only; the proofs are in `Lemmas/Roundtrip.lean`,
  `Lemmas/RoundtripY.lean` and, for step trees and pipelines, `Lemmas/FixpointOK.lean`.

  Side conditions (`Stable*`, all decidable, defined in Model/Roundtrip.lean) and why they are there:
    * `JStable` untyped content — number / timestamp re-typing by the text codec is not modelled (the
      codec is explored by the correspondence only);
    * no explicitly empty `label`/`key` next to an alias (finding F14);
    * no adjustment `skip` that JSON's omitempty drops (finding F11; the YAML leg does not need it).
  No side condition on settings written next to `cache: {disabled: true}`: only a cache that is nothing but
  disabled is written as `false`, any other disabled cache as an object holding `"disabled": true` next to
  its settings (finding F18, fixed in the code, commit e8ce0ad).
  No side condition on plugin sources: the marshaller writes `FullSource()`, so the re-parsed step holds
  the canonical source, and comparing normal forms canonicalises it once more; canonicalisation is
  idempotent for every string, `Marshal.fullSource_idem` (Lemmas/PluginSourceIdem.lean; finding F17,
  `path.Join` in `FullSource`, fixed in the code, commit 3ced888).
-/
import GoPipeline.Gen.Methods
import GoPipeline.Lemmas.FixpointOK
set_option linter.unusedVariables false
namespace GoPipeline.Roundtrip
open GoPipeline GoPipeline.Pipe GoPipeline.Parse GoPipeline.Marshal

/-! ### Untyped content -/

/-- Values as decoded from a document (ordered mappings only) come back unchanged. -/
theorem C09_document_values_stable (v : Val) (h : NoUMap v) : rereadJ v = v := reread_noUMap v h

/-- Plugin configs (`ToMapRecursive` images) come back as the same Go maps. -/
theorem C09_config_roundtrip (v : Val) (h : NoUMap v) : toMapRec (rereadJ (toMapRec v)) = toMapRec v :=
  config_roundtrip v h

/-! ### Components: every emitted shape is accepted and maps back -/

theorem C09_plugins_roundtrip (v : Val) (l : List (Option Plugin)) (hv : NoUMap v)
    (h : parsePlugins v = .ok (some l)) :
    parsePlugins (rereadJ (mPlugins l)) = .ok (some (l.map fun p => p.map normPlugin)) :=
  let ⟨hne, hok⟩ := parsePlugins_ok hv h
  plugins_roundtrip_ok l hne hok

theorem C09_env_roundtrip (v : Val) (e : List (String × String)) (h : parseEnvMap v = .ok (some e)) (hne : e ≠ []) :
    parseEnvMap (rereadJ (envV (some e))) = .ok (some e) :=
  env_roundtrip_sorted e (parseEnvMap_sorted h)

theorem C09_pipeline_env_roundtrip (e : List (String × String)) :
    parseEnvOrdered (rereadJ (.omap (e.map fun (k, v) => (k, .str v)))) = .ok (some e) := pipeline_env_roundtrip e

theorem C09_matrix_roundtrip (v : Val) (m : Matrix) (hv : NoUMap v) (h : parseMatrix v = .ok (some m)) (hs : StableMatrix m) :
    ∃ m', parseMatrix (rereadJ (mMatrix m)) = .ok (some m') ∧ normMatrix m' = normMatrix m :=
  let ⟨m', h1, h2⟩ := matrix_roundtrip_same m (parseMatrix_ok hv h) hs
  ⟨m', h1, normMatrix_of_same h2⟩

theorem C09_cache_roundtrip (v : Val) (c : Cache) (hv : NoUMap v) (h : parseCache v = .ok (some c))
    (hs : StableUMap c.rem) :
    ∃ c', parseCache (rereadJ (mCache c)) = .ok (some c') ∧ normCache c' = normCache c :=
  cache_roundtrip_ok c (parseCache_ok hv h)

theorem C09_signature_roundtrip (s : Signature) :
    parseSignature (rereadJ (mSignature s)) = .ok (some s) := signature_roundtrip s

/-! ### Steps -/

/-- One command step (this is also `CommandStep.UnmarshalJSON` applied to the step's own JSON). -/
theorem C09_command_roundtrip (m : Unm.Entries) (c : CommandStep) (hm : NoUMapKVs m) (hk : (m.map (·.1)).Nodup)
    (h : parseCommand m = .ok c) (hs : StableCommand c) :
    ∃ kvs c', rereadJ (mCommand c) = .omap kvs ∧ parseCommand kvs = .ok c' ∧ normCommand c' = normCommand c :=
  let ⟨kvs, c', h1, h2, h3, _⟩ := command_roundtrip_ok c (parseCommand_inv hm h) hs
  ⟨kvs, c', h1, h2, h3⟩

/-- Every step kind, groups recursively: re-parsing the marshalled step gives the same step, same kind. -/
theorem C09_step_roundtrip (f : Nat) (x : Val) (s : Step) (w : List Warn) (hx : NoUMap x) (hd : KeysNodup x)
    (h : parseStep f x = .ok (s, w)) (hs : StableStep s) :
    ∃ j s' w', mStep s = .ok j ∧ parseStep f (rereadJ j) = .ok (s', w') ∧ normStep s' = normStep s ∧ w' = w :=
  parsed_step_fix SignedRT.jsonLeg f x s w hx hd h hs

/-- The whole pipeline: the normal form is a fixpoint. -/
theorem C09_json_fixpoint (v : Val) (p : Pipeline) (ws : List Warn) (hv : NoUMap v) (hd : KeysNodup v)
    (h : parsePipeline v = .ok (p, ws)) (hs : StablePipeline p) :
    ∃ j p' ws', mPipeline p = .ok j ∧ parsePipeline (rereadJ j) = .ok (p', ws') ∧ normPipeline p' = normPipeline p :=
  pipeline_fix SignedRT.jsonLeg v p ws hv hd h hs.1

/-- Normalisation is idempotent: a second round of marshal + re-parse changes nothing more. -/
theorem C09_norm_idempotent (p : Pipeline) : normPipeline (normPipeline p) = normPipeline p := by
  obtain ⟨steps, env, rem⟩ := p
  cases steps with
  | none => simp only [normPipeline, normList_idem, normSteps]
  | some l =>
    simp only [normPipeline, normList_idem, normSteps_idem l]

/-! ### The YAML leg (value-tree level; Model/MarshalY.lean mirrors yaml.v3's struct encoding)

  `rereadJ` also stands for the YAML text codec here: struct levels (Go maps / structs) come back as ordered
  mappings, ordered mappings stay as they are. The YAML leg needs no `emptyishSkip` condition (F11 is a
  JSON-only loss). -/

/-- Every pipeline in the image of the parser can be written as YAML (no inline key collides with a
    declared field), and re-parsing that gives the same typed pipeline modulo nil/empty and plugin-source
    canonicalisation. -/
theorem C09_yaml_fixpoint (v : Val) (p : Pipeline) (ws : List Warn) (hv : NoUMap v) (hd : KeysNodup v)
    (h : parsePipeline v = .ok (p, ws)) (hs : StablePipelineY p) :
    ∃ j p' ws', MarshalY.yPipeline p = .ok j ∧ parsePipeline (rereadJ j) = .ok (p', ws') ∧
      normPipeline p' = normPipeline p :=
  pipeline_fix SignedRT.yamlLeg v p ws hv hd h hs.1

/-- Both output formats carry the same data: re-parsing the JSON form and re-parsing the YAML form of the
    same parsed pipeline give pipelines with the same normal form. -/
theorem C09_legs_carry_same_data (v : Val) (p : Pipeline) (ws : List Warn) (hv : NoUMap v) (hd : KeysNodup v)
    (h : parsePipeline v = .ok (p, ws)) (hs : StablePipeline p) :
    ∃ jJ jY pJ pY wJ wY, mPipeline p = .ok jJ ∧ MarshalY.yPipeline p = .ok jY ∧
      parsePipeline (rereadJ jJ) = .ok (pJ, wJ) ∧ parsePipeline (rereadJ jY) = .ok (pY, wY) ∧
      normPipeline pJ = normPipeline pY := by
  obtain ⟨jJ, pJ, wJ, h1, h2, h3⟩ := pipeline_fix SignedRT.jsonLeg v p ws hv hd h hs.1
  obtain ⟨jY, pY, wY, g1, g2, g3⟩ := pipeline_fix SignedRT.yamlLeg v p ws hv hd h (stablePipelineY_of hs).1
  exact ⟨jJ, jY, pJ, pY, wJ, wY, h1, g1, h2, g2, h3.trans g3.symm⟩

/-- The one place where the legs differ in content: an adjustment's `skip` that is `false`, `""`, `0` or
    `[]` is kept by the YAML form and dropped by the JSON form (finding F11). -/
theorem C09_yaml_keeps_emptyish_skip (a : Adjustment) (h : emptyishSkip a.skip = true)
    (hrem : (a.rem.getD []).lookup "skip" = none ∧ (a.rem.getD []).lookup "with" = none) :
    (∃ kvs, MarshalY.yAdjustment a = .ok (.umap kvs) ∧ kvs.lookup "skip" = some a.skip) ∧
    (∃ kvs, mAdjustment a = .umap kvs ∧ kvs.lookup "skip" = none) := by
  have hnn : MarshalY.yIsZeroAny a.skip = false := by
    cases hs : a.skip <;> simp [hs, emptyishSkip, MarshalY.yIsZeroAny] at h ⊢
  have hemp : isEmptyAny a.skip = true := by
    cases hs : a.skip with
    | null => rw [hs] at h; cases h
    | _ => rw [hs] at h; exact h
  have hskip : "skip" ∉ (a.rem.getD []).map (·.1) := (lookup_eq_none_iff_keys _ _).1 hrem.1
  have hwith : "with" ∉ (a.rem.getD []).map (·.1) := (lookup_eq_none_iff_keys _ _).1 hrem.2
  constructor
  · refine ⟨Marshal.umapOf ((a.rem.getD []) ++ ([("with", mWith a.with_)] ++ [("skip", a.skip)])), ?_, ?_⟩
    · have hfind : (a.rem.getD []).find?
          (fun p => (MarshalY.declaredKeys Gen.struct_MatrixAdjustment).contains p.1) = none := by
        rw [List.find?_eq_none]
        intro p hp hc
        have hd : MarshalY.declaredKeys Gen.struct_MatrixAdjustment = ["with", "skip"] := by decide +kernel
        rw [hd] at hc
        have hk : p.1 ∈ (a.rem.getD []).map (·.1) := List.mem_map_of_mem hp
        simp only [List.contains_cons, List.contains_nil, Bool.or_false, Bool.or_eq_true, beq_iff_eq] at hc
        rcases hc with hc | hc
        · rw [hc] at hk; exact hwith hk
        · rw [hc] at hk; exact hskip hk
      unfold MarshalY.yAdjustment MarshalY.yStruct
      rw [hfind]
      simp only [hnn, Bool.false_eq_true, if_false]
    · rw [marshal_umapOf_eq]
      unfold Parse.umapOf
      rw [← List.append_assoc, List.foldl_append]
      simp only [List.foldl_cons, List.foldl_nil, lookup_umapInsert, if_true]
  · refine ⟨Marshal.umapOf ((a.rem.getD []).filter (fun p => !([("with", mWith a.with_)].map (·.1)).contains p.1) ++
        [("with", mWith a.with_)]), ?_, ?_⟩
    · unfold mAdjustment inlineFriendly
      simp only [hemp, if_true, List.append_nil]
    · rw [marshal_umapOf_eq]
      unfold Parse.umapOf
      rw [List.foldl_append]
      simp only [List.foldl_cons, List.foldl_nil, lookup_umapInsert]
      rw [if_neg (by decide +kernel)]
      apply lookup_foldl_not_mem
      intro hm
      exact hskip ((List.filter_sublist.map _).subset hm)

/-! ### The marshalling models hard-code which fields exist and which are omitted when empty; this ties that
    to the struct tags of the current source (regenerated `Gen/Structs`), so a changed tag — a new
    `omitempty`, a renamed key, a reordered or added field — breaks this obligation at build time. -/

theorem C09_struct_tags_as_modelled :
    (Gen.struct_Pipeline.map fun f => (f.name, f.key)) =
      [("Steps", "steps"), ("Env", "env"), ("RemainingFields", "remainingfields")] ∧
    Gen.omitempty_Pipeline = ["Env"] ∧
    (Gen.struct_CommandStep.map fun f => (f.name, f.key)) =
      [("Key", "key"), ("Label", "label"), ("Command", "command"), ("Plugins", "plugins"), ("Env", "env"),
       ("Signature", "signature"), ("Matrix", "matrix"), ("Cache", "cache"), ("RemainingFields", "remainingfields")] ∧
    Gen.omitempty_CommandStep = ["Key", "Label", "Plugins", "Env", "Signature", "Matrix", "Cache"] ∧
    (Gen.struct_GroupStep.map fun f => (f.name, f.key)) =
      [("Key", "key"), ("Group", "group"), ("Steps", "steps"), ("RemainingFields", "remainingfields")] ∧
    Gen.omitempty_GroupStep = ["Key"] ∧
    (Gen.struct_Matrix.map fun f => (f.name, f.key)) =
      [("Setup", "setup"), ("Adjustments", "adjustments"), ("RemainingFields", "remainingfields")] ∧
    Gen.omitempty_Matrix = ["Adjustments"] ∧
    (Gen.struct_MatrixAdjustment.map fun f => (f.name, f.key)) =
      [("With", "with"), ("Skip", "skip"), ("RemainingFields", "remainingfields")] ∧
    Gen.omitempty_MatrixAdjustment = ["Skip"] ∧
    (Gen.struct_Cache.map fun f => (f.name, f.key)) =
      [("Disabled", "disabled"), ("Name", "name"), ("Paths", "paths"), ("Size", "size"), ("RemainingFields", "remainingfields")] ∧
    Gen.omitempty_Cache = ["Disabled", "Name", "Paths", "Size"] ∧
    (Gen.struct_Signature.map fun f => (f.name, f.key)) =
      [("Algorithm", "algorithm"), ("SignedFields", "signed_fields"), ("Value", "value")] ∧
    Gen.omitempty_Signature = [] :=
  ⟨rfl, rfl, rfl, rfl, rfl, rfl, rfl, rfl, rfl, rfl, rfl, rfl, rfl, rfl⟩

/-- Where the encoders find the codec methods. yaml.v3 and encoding/json reach a pointer-receiver method only through
    a pointer or an addressable value; a struct FIELD of value type `T` is encoded without it. The value-typed fields
    with named types of the structs the model mirrors (`Matrix.Setup`, `Matrix.Adjustments`, `MatrixAdjustment.With`,
    `CommandStep.Plugins`, `Pipeline.Steps`, `GroupStep.Steps`) have their `MarshalYAML` / `MarshalJSON`, if any, on a
    value receiver — in the current source (regenerated `Gen/Methods`, `Gen/Structs`). A receiver changed to a pointer
    (the YAML leg would silently write the raw map) breaks this obligation at build time. -/
def valueFieldTypes : List String :=
  (Gen.struct_Pipeline ++ Gen.struct_CommandStep ++ Gen.struct_GroupStep ++ Gen.struct_Matrix ++
    Gen.struct_MatrixAdjustment ++ Gen.struct_Cache ++ Gen.struct_Signature).filterMap fun f =>
    match f.ty with
    | .named t => some t
    | _ => none

theorem C09_marshalers_of_value_fields_on_value_receivers :
    valueFieldTypes = ["Steps", "Plugins", "Steps", "MatrixSetup", "MatrixAdjustments", "MatrixAdjustmentWith"] ∧
    ∀ t ∈ valueFieldTypes, ∀ m ∈ ["MarshalYAML", "MarshalJSON"], (t, m, true) ∉ Gen.codecMethods :=
  ⟨rfl, by decide +kernel⟩

/-- …and the types the YAML-leg model gives a `MarshalYAML` do have one (value or pointer receiver as the field requires). -/
theorem C09_yaml_marshalers_present :
    (("MatrixSetup", "MarshalYAML", false) ∈ Gen.codecMethods) ∧ (("MatrixAdjustmentWith", "MarshalYAML", false) ∈ Gen.codecMethods) ∧
    (("Matrix", "MarshalYAML", true) ∈ Gen.codecMethods) ∧ (("Plugin", "MarshalYAML", true) ∈ Gen.codecMethods) ∧
    (("WaitStep", "MarshalYAML", true) ∈ Gen.codecMethods) ∧ (("InputStep", "MarshalYAML", true) ∈ Gen.codecMethods) ∧
    (("UnknownStep", "MarshalYAML", true) ∈ Gen.codecMethods) := by decide +kernel

example : StableCommand { key := "k", label := "", command := "c", plugins := some [some { source := "docker#v1", config := .umap [] }],
                          env := none, signature := none, matrix := none, cache := none, rem := some [("agents", .omap [("q", .str "x")])] } := by
  simp [StableCommand, noEmptyPrimaryWithAlias, StableUMap, JStable, JStableKVs]

end GoPipeline.Roundtrip
