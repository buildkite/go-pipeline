/-
  C18 — only approved asymmetric key/algorithm pairs pass key validation (decision logic),
  over the tables regenerated from jwkutil/validate.go.
-/
import GoPipeline.Model.Jwk
import GoPipeline.Gen.Jwk
namespace GoPipeline.Jwk
open GoPipeline.Gen

/-- `validate` over the tables regenerated from jwkutil/validate.go. -/
abbrev validateGen (k : KeyDesc) : Except Err Unit :=
  validate jwkValidSigningAlgorithms jwkValidKeyTypes jwkValidAlgsForKeyType k

theorem C18_tables_recognised : jwkRecognised = true := by decide

/-- The checks are made in the order the model makes them. -/
theorem C18_check_order : jwkCheckOrder = checkOrder := rfl

private theorem ok_iff {e : Except Err Unit} : e = .ok () ↔ (match e with | .ok _ => true | .error _ => false) = true := by
  cases e <;> simp

theorem validate_eq_ok_iff (validSig validKty : List String) (algsFor : List (String × List String))
    (k : KeyDesc) :
    validate validSig validKty algsFor k = .ok () ↔
      k.structOk = true ∧ ∃ name, k.alg = some (true, name) ∧ name ∈ validSig ∧ k.kty ∈ validKty ∧
        name ∈ (algsFor.lookup k.kty).getD [] := by
  obtain ⟨sok, alg, kty⟩ := k
  unfold validate
  cases sok
  · simp
  · rcases alg with _ | ⟨isSig, name⟩
    · simp
    · cases isSig
      · simp
      · simp only [Bool.not_true, Bool.false_eq_true, ↓reduceIte, Bool.not_eq_eq_eq_not, List.contains_eq_mem,
          decide_eq_false_iff_not, true_and, Option.some.injEq, Prod.mk.injEq, exists_eq_left']
        split
        · simp [*]
        split
        · simp [*]
        split
        · simp [*]
        · simp_all

theorem approved_iff (kty name : String) :
    approved kty name = true ↔ name ∈ jwkValidSigningAlgorithms ∧ kty ∈ jwkValidKeyTypes ∧
      name ∈ (jwkValidAlgsForKeyType.lookup kty).getD [] := by
  constructor
  · intro h
    simp only [approved, Bool.or_eq_true, Bool.and_eq_true, beq_iff_eq] at h
    rcases h with (⟨rfl, rfl⟩ | ⟨rfl, rfl⟩) | ⟨rfl, rfl⟩ <;> decide
  · rintro ⟨-, -, h⟩
    by_cases k1 : kty = "RSA"
    · subst k1; simpa [approved, jwkValidAlgsForKeyType, List.lookup] using h
    by_cases k2 : kty = "EC"
    · subst k2; simpa [approved, jwkValidAlgsForKeyType, List.lookup] using h
    by_cases k3 : kty = "OKP"
    · subst k3; simpa [approved, jwkValidAlgsForKeyType, List.lookup] using h
    simp [jwkValidAlgsForKeyType, List.lookup, beq_false_of_ne k1, beq_false_of_ne k2, beq_false_of_ne k3] at h

/-- Accepted exactly when structurally valid, an algorithm is declared, it is a signature algorithm and
    (key type, algorithm) is RSA+PS512, EC+ES512 or OKP+EdDSA — for *all* key types and algorithm names. -/
theorem C18_validate_iff (k : KeyDesc) : validateGen k = .ok () ↔ accept k = true := by
  rw [validateGen, validate_eq_ok_iff]
  obtain ⟨sok, alg, kty⟩ := k
  rcases alg with _ | ⟨isSig, name⟩
  · simp [accept]
  · cases isSig <;> simp [accept, approved_iff]

/-- Every symmetric key is rejected, whatever its algorithm. -/
theorem C18_symmetric_rejected (k : KeyDesc) (h : k.kty = "OctetSeq") : validateGen k ≠ .ok () := by
  intro hv
  have := (C18_validate_iff k).mp hv
  obtain ⟨sok, alg, kty⟩ := k
  simp only at h; subst h
  cases alg with
  | none => simp [accept] at this
  | some p => obtain ⟨s, n⟩ := p; simp [accept, approved] at this

/-- A missing algorithm is rejected. -/
theorem C18_missing_alg_rejected (k : KeyDesc) (h : k.alg = none) : validateGen k ≠ .ok () := by
  intro hv; have := (C18_validate_iff k).mp hv; simp [accept, h] at this

/-- A non-signature algorithm is rejected. -/
theorem C18_non_signature_alg_rejected (k : KeyDesc) (n : String) (h : k.alg = some (false, n)) :
    validateGen k ≠ .ok () := by
  intro hv; have := (C18_validate_iff k).mp hv; simp [accept, h] at this

/-- Every other signature algorithm (HS*, RS*, ES256, PS256, …: any name outside the three) is rejected. -/
theorem C18_other_alg_rejected (k : KeyDesc) (n : String) (h : k.alg = some (true, n))
    (hn : n ≠ "PS512" ∧ n ≠ "ES512" ∧ n ≠ "EdDSA") : validateGen k ≠ .ok () := by
  intro hv; have := (C18_validate_iff k).mp hv
  simp [accept, h, approved, hn.1, hn.2.1, hn.2.2] at this

/-! ### Loading from a key set -/

theorem firstIdx_eq_findIdx? (kids : List (Option String)) (want : String) :
    firstIdx kids want = kids.findIdx? (· == some want) := by
  induction kids with
  | nil => rfl
  | cons k r ih => rw [firstIdx, List.findIdx?_cons, ih]

theorem firstIdx_spec (kids : List (Option String)) (want : String) (i : Nat) :
    firstIdx kids want = some i ↔ kids[i]? = some (some want) ∧ ∀ j, j < i → kids[j]? ≠ some (some want) := by
  rw [firstIdx_eq_findIdx?, List.findIdx?_eq_some_iff_getElem]
  simp only [beq_iff_eq, List.getElem?_eq_some_iff, ne_eq]
  constructor
  · rintro ⟨h, e, hj⟩
    exact ⟨⟨h, e⟩, fun j hji ⟨_, e'⟩ => hj j hji e'⟩
  · rintro ⟨⟨h, e⟩, hj⟩
    exact ⟨h, e, fun j hji e' => hj j hji ⟨Nat.lt_trans hji h, e'⟩⟩

theorem firstIdx_eq_none_iff (kids : List (Option String)) (want : String) :
    firstIdx kids want = none ↔ ∀ i : Nat, kids[i]? ≠ some (some want) := by
  rw [firstIdx_eq_findIdx?, List.findIdx?_eq_none_iff]
  simp only [beq_eq_false_iff_ne, ne_eq]
  constructor
  · exact fun h i e => h _ (List.mem_of_getElem? e) rfl
  · intro h x hx e
    obtain ⟨i, hi⟩ := List.getElem?_of_mem hx
    exact h i (e ▸ hi)

/-- An id is requested: the first key with that id, or an error when no key has it. -/
theorem C18_pick_by_id (kids : List (Option String)) (keyID : String) (h : keyID ≠ "") :
    (∀ i, pick kids keyID = .ok i ↔ (kids[i]? = some (some keyID) ∧ ∀ j, j < i → kids[j]? ≠ some (some keyID))) ∧
    (pick kids keyID = .error .notFound ↔ ∀ i : Nat, kids[i]? ≠ some (some keyID)) := by
  have hb : (keyID == "") = false := by simpa using h
  unfold pick
  simp only [hb, Bool.false_eq_true, if_false]
  constructor
  · intro i
    rw [← firstIdx_spec]
    cases firstIdx kids keyID <;> simp
  · rw [← firstIdx_eq_none_iff]
    cases firstIdx kids keyID <;> simp

/-- No id requested: the only key, and an error for an empty or ambiguous set. -/
theorem C18_pick_only_key (kids : List (Option String)) :
    (pick kids "" = .ok 0 ↔ kids.length = 1) ∧ (pick kids "" = .error .noSigningKeyID ↔ kids.length ≠ 1) := by
  unfold pick
  by_cases h : kids.length = 1 <;> simp [h]

/-- Validation is applied to the selected key: a load succeeds only with an accepted key. -/
theorem C18_load_validates (keys : List (Option String × KeyDesc)) (keyID : String) (i : Nat)
    (h : load jwkValidSigningAlgorithms jwkValidKeyTypes jwkValidAlgsForKeyType keys keyID = .ok i) :
    ∃ k, keys[i]? = some k ∧ accept k.2 = true ∧ pick (keys.map (·.1)) keyID = .ok i := by
  unfold load at h
  split at h; · simp at h
  rename_i j hj
  split at h; · simp at h
  rename_i kid k hk
  split at h; · simp at h
  rename_i hv
  simp only [Except.ok.injEq] at h; subst h
  exact ⟨(kid, k), hk, (C18_validate_iff k).mp hv, hj⟩

/-! Non-vacuity -/
example : validateGen { structOk := true, alg := some (true, "EdDSA"), kty := "OKP" } = .ok () := by decide +kernel
example : validateGen { structOk := true, alg := some (true, "RS512"), kty := "RSA" } = .error .unsupportedSigningAlg := by decide +kernel
example : validateGen { structOk := true, alg := some (true, "ES512"), kty := "RSA" } = .error .unsupportedAlgForKeyType := by decide +kernel
example : pick [some "a", none, some "b", some "a"] "b" = .ok 2 := by decide +kernel

end GoPipeline.Jwk
