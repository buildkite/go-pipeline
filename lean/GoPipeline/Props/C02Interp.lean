/-
  C02 on interpolated step TREES — env interpolation between parsing and signing, for every step kind and for
  the pipeline's step list (JSON leg, model level).  The lemmas behind the statements are in `GoPipeline/Lemmas/StepOKInterp.lean`.

  `Props/C02OK.lean` replaces "in the image of the parser" by the structural predicate `StepOK` and bridges
  env interpolation for COMMAND steps.  Here the bridge covers wait / input / trigger / group steps and lists:

    StepOK ∧ MapsNodup ∧ TreeFixed tf ⇒ the interpolated tree is StepOK, same depth
                                                     (C02_interpolated_tree_stays_ok, …_list_stays_ok)
    parse, interpolate (TreeFixed), SignSteps, marshal, re-read, re-parse ⇒ every command step verifies
                                                     (C02_interpolate_then_sign_steps, …_pipeline)

  `TreeFixed tf s` (structural recursion on the step tree, `Lemmas/StepOKInterp.lean`):
    command c        : `KeysFixed tf c` ∧ `TypeFixed tf c.rem`
    wait _ c / input _ c / trigger c : `RemFixed tf c` ∧ `TypeFixed tf c`
    group _ _ ss r   : `RemFixed tf r` ∧ `TypeFixed tf r` ∧ (`ss = some l` → `TreesFixed tf l`)
    unknown _        : nothing
  where `RemFixed tf c` says that `tf` fixes every TOP-LEVEL key of the Go map `c` and `TypeFixed tf c` that it
  fixes the string held by a `type` entry of `c`, if any.  Nothing is asked of the wait / input scalar (the model,
  like `Step.interpolate`, does not transform it), of the group's key and label (they are transformed, but
  `StepOK` does not depend on them), of values other than the `type` string, of nested keys.  The condition is
  what finding F21 and "kind redirection" violate: a contents key rewritten onto `command` (the kind-redirection example).

  EXTRA HYPOTHESIS `MapsNodup s` (not in the informal statement; without it the statement is false in the
  model, `C02_maps_nodup_needed`): the Go-map contents of wait / input / trigger steps have pairwise distinct
  keys.  It is an invariant of Go maps that the model's list representation does not enforce by typing; the
  parser establishes it (`C02_parser_image_maps_nodup`), interpolation re-establishes it unconditionally
  (`C02_interpolation_result_maps_nodup`), so the composed theorems do not mention it.
-/
import GoPipeline.Lemmas.StepOKInterp
import GoPipeline.Props.C02OK
namespace GoPipeline.SignedRT
open GoPipeline GoPipeline.Pipe GoPipeline.Parse GoPipeline.Marshal GoPipeline.Signing GoPipeline.Roundtrip

variable (S : SigScheme)

/-! ### Interpolation keeps a step tree well-formed -/

/-- Env interpolation keeps a well-formed step tree well-formed, with the same nesting depth, when the
    transformer is `TreeFixed` for it.  `hnd` is the Go-map invariant (distinct keys), see the header. -/
theorem C02_interpolated_tree_stays_ok {E : Type} (tf : String → Except E String) (s s₁ : Step)
    (hok : StepOK s) (hnd : MapsNodup s) (h : Interp.interpStep .env tf s = .ok s₁) (hfix : TreeFixed tf s) :
    StepOK s₁ ∧ stepDepth s₁ = stepDepth s :=
  (interp_stepOK tf).1 s s₁ h hok hnd hfix

theorem C02_interpolated_list_stays_ok {E : Type} (tf : String → Except E String) (l l₁ : List Step)
    (hok : StepsOK l) (hnd : MapsNodupList l) (h : Interp.interpSteps .env tf l = .ok l₁)
    (hfix : TreesFixed tf l) : StepsOK l₁ ∧ stepsDepth l₁ = stepsDepth l :=
  (interp_stepOK tf).2 l l₁ h hok hnd hfix

/-- The parser only produces Go-map contents with distinct keys (no hypothesis on the document). -/
theorem C02_parser_image_maps_nodup (f : Nat) (x : Val) (s : Step) (w : List Warn)
    (h : parseStep f x = .ok (s, w)) : MapsNodup s :=
  parse_mapsNodup.1 f x s w h

theorem C02_parser_image_maps_nodup_list (f : Nat) (xs : List Val) (ss : List Step) (ws : List Warn)
    (h : parseSteps f xs = .ok (ss, ws)) : MapsNodupList ss :=
  parse_mapsNodup.2 f xs ss ws h

/-- The result of every interpolation (env or matrix, any transformer, any input tree) has distinct keys, so
    `C02_interpolated_tree_stays_ok` can be iterated. -/
theorem C02_interpolation_result_maps_nodup {E : Type} (kind : Interp.TfKind) (tf : String → Except E String)
    (s s₁ : Step) (h : Interp.interpStep kind tf s = .ok s₁) : MapsNodup s₁ :=
  (interp_mapsNodup kind tf).1 s s₁ h

/-- For a PARSED tree the Go-map invariant is discharged: parse, then interpolate with a `TreeFixed`
    transformer; the result is well-formed and the parser fuel still covers it. -/
theorem C02_parsed_interpolated_tree_stays_ok {E : Type} (f : Nat) (x : Val) (s s₁ : Step) (w : List Warn)
    (hx : NoUMap x) (hd : KeysNodup x) (h : parseStep f x = .ok (s, w)) (tf : String → Except E String)
    (hi : Interp.interpStep .env tf s = .ok s₁) (hfix : TreeFixed tf s) : StepOK s₁ ∧ stepDepth s₁ ≤ f := by
  obtain ⟨hok, hdep⟩ := parseStep_stepOK f x s w hx hd h
  obtain ⟨h1, h2⟩ := (interp_stepOK tf).1 s s₁ hi hok (parse_mapsNodup.1 f x s w h) hfix
  exact ⟨h1, by rw [h2]; exact hdep⟩

/-! ### Parse, interpolate, SignSteps, marshal, re-read, re-parse, verify -/

/-- The pipeline's steps: parsed from a decoded document, interpolated with a transformer that is `TreesFixed`
    for them, signed by `SignSteps`, marshalled, re-read and re-parsed with the same fuel: every command step of
    the result (at any group depth) carries a verifying signature. -/
theorem C02_interpolate_then_sign_steps {E : Type} (render : S.Sig → String) (parseSig : String → Option S.Sig)
    (hrender : ∀ s, parseSig (render s) = some s)
    (f : Nat) (xs : List Val) (l l₁ : List Step) (ws : List Warn) (hx : NoUMapList xs) (hd : KeysNodupList xs)
    (h : parseSteps f xs = .ok (l, ws))
    (tf : String → Except E String) (hi : Interp.interpSteps .env tf l = .ok l₁) (hfix : TreesFixed tf l)
    (hs : StableSteps l₁)
    (k : S.Key) (alg repo : String) (penv env₁ : List (String × String)) (henv : EnvExtends penv env₁)
    (signed : List Step) (hsign : signSteps S render k alg repo penv l₁ = .ok signed) :
    ∃ js ss' ws', mSteps signed = .ok js ∧ parseSteps f (rereadJList js) = .ok (ss', ws') ∧
      VerifiesAllList S parseSig (S.pubOf k) repo env₁ ss' := by
  obtain ⟨hok₁, hdep₁⟩ := parse_then_interp_list f xs l l₁ ws hx hd h tf hi hfix
  exact signed_list_roundtrip_ok S render parseSig k alg repo penv env₁ hrender l₁ hok₁ hs f hdep₁ henv signed hsign

/-- The same through `(*Pipeline).Interpolate` (the part after the env block) on the typed pipeline. -/
theorem C02_interpolate_then_sign_pipeline {E : Type} (render : S.Sig → String)
    (parseSig : String → Option S.Sig) (hrender : ∀ s, parseSig (render s) = some s)
    (f : Nat) (xs : List Val) (l : List Step) (ws : List Warn) (hx : NoUMapList xs) (hd : KeysNodupList xs)
    (h : parseSteps f xs = .ok (l, ws))
    (tf : String → Except E String) (p p₁ : Pipeline) (hp : p.steps = some l)
    (hi : Interp.interpPipelineRest tf p = .ok p₁) (hfix : TreesFixed tf l) :
    ∃ l₁, p₁.steps = some l₁ ∧ StepsOK l₁ ∧ stepsDepth l₁ ≤ f ∧
      (StableSteps l₁ → ∀ (k : S.Key) (alg repo : String) (penv env₁ : List (String × String)),
        EnvExtends penv env₁ → ∀ signed, signSteps S render k alg repo penv l₁ = .ok signed →
        ∃ js ss' ws', mSteps signed = .ok js ∧ parseSteps f (rereadJList js) = .ok (ss', ws') ∧
          VerifiesAllList S parseSig (S.pubOf k) repo env₁ ss') := by
  obtain ⟨l₁, h1, hok₁, hdep₁⟩ := parse_then_interp_pipeline f xs l ws hx hd h tf p p₁ hp hi hfix
  exact ⟨l₁, h1, hok₁, hdep₁, fun hs k alg repo penv env₁ henv signed hsign =>
    signed_list_roundtrip_ok S render parseSig k alg repo penv env₁ hrender l₁ hok₁ hs f hdep₁ henv signed hsign⟩

/-! ### The Go-map invariant cannot be dropped from `C02_interpolated_tree_stays_ok` -/

/-- On the ill-formed representation `[("type","wait"), ("type","command")]` of a wait step's contents
    (`List.lookup` reads the first entry, the Go-map walk keeps the last one) the IDENTITY transformer leaves
    `StepOK`. -/
theorem C02_maps_nodup_needed :
    let tf : String → Except Unit String := fun s => .ok s
    let s : Step := .wait "" (some [("type", .str "wait"), ("type", .str "command")])
    let s₁ : Step := .wait "" (some [("type", .str "command")])
    StepOK s ∧ TreeFixed tf s ∧ ¬ MapsNodup s ∧ Interp.interpStep .env tf s = .ok s₁ ∧ ¬ StepOK s₁ := by
  intro tf s s₁
  have h1 : selOf [("type", Val.str "wait"), ("type", .str "command")] = .ok (.known .wait) := eq_ok_of_decide (by decide +kernel)
  have h2 : selOf [("type", Val.str "command")] = .ok (.known .command) := eq_ok_of_decide (by decide +kernel)
  refine ⟨?_, ?_, ?_, ?_, ?_⟩
  · simp only [s, StepOK, if_pos, Option.getD_some]
    exact .inr h1
  · simp only [s, TreeFixed]
    exact ⟨fun _ _ => rfl, fun _ _ => rfl⟩
  · simp [s, MapsNodup]
  · rfl
  · simp only [s₁, StepOK, if_pos, Option.getD_some]
    rw [h2]
    simp

namespace ExampleInterp
open Example ExampleOK

/-! ### Example: a group holding a command step and a wait step, then a scalar wait step -/

/-- `{wait: null, if: "$FOO", meta: {"$FOO": x}}`: a value and a NESTED key mention `$FOO`. -/
def waitDoc : Val := .omap [("wait", .null), ("if", .str "$FOO"), ("meta", .omap [("$FOO", .str "x")])]

def waitEx : Step := .wait "" (some [("if", .str "$FOO"), ("meta", .omap [("$FOO", .str "x")]), ("wait", .null)])

def wait1Ex : Step := .wait "" (some [("if", .str "bar"), ("meta", .omap [("bar", .str "x")]), ("wait", .null)])

/-- The group's label is `$FOO`, its unknown field `notify` mentions `$FOO` in a value; the nested command
    step is `mEx2` of `Props/C02OK.lean` (`$FOO` in every position the walkers visit). -/
def groupDoc : Val :=
  .omap [("group", .str "$FOO"), ("key", .str "grp"), ("steps", .seq [.omap mEx2, waitDoc]),
         ("notify", .seq [.str "$FOO"])]

def xsEx : List Val := [groupDoc, .str "wait"]

def lEx : List Step :=
  [.group "grp" (some "$FOO") (some [.command cEx2, waitEx]) (some [("notify", .seq [.str "$FOO"])]),
   .wait "wait" none]

/-- The interpolated list: label, values, env names, plugin config keys, nested keys rewritten; top-level keys
    of contents and remainders unchanged. -/
def l1Ex : List Step :=
  [.group "grp" (some "bar") (some [.command c1Ex2, wait1Ex]) (some [("notify", .seq [.str "bar"])]),
   .wait "wait" none]

theorem parse_waitDoc : parseStep 1 waitDoc = .ok (waitEx, []) := by
  rw [waitDoc, parseStep.eq_3]; rfl

theorem parse_inner : parseSteps 1 [.omap mEx2, waitDoc] = .ok ([.command cEx2, waitEx], []) := by
  rw [parseSteps.eq_2, parseStep_mEx2]
  simp only
  rw [parseSteps.eq_2, parse_waitDoc]
  simp only
  rw [parseSteps.eq_1]
  rfl

theorem parse_groupDoc : parseStep 2 groupDoc =
    .ok (.group "grp" (some "$FOO") (some [.command cEx2, waitEx]) (some [("notify", .seq [.str "$FOO"])]), []) := by
  rw [groupDoc, parseStep.eq_3]
  have hsel : selOf [("group", Val.str "$FOO"), ("key", .str "grp"), ("steps", .seq [.omap mEx2, waitDoc]),
      ("notify", .seq [.str "$FOO"])] = .ok (.known .group) := eq_ok_of_decide (by decide +kernel)
  rw [hsel]
  simp only
  rw [parseGroup.eq_1, fieldOf_group_steps]
  have hlk : List.lookup "steps" [("group", Val.str "$FOO"), ("key", .str "grp"),
      ("steps", .seq [.omap mEx2, waitDoc]), ("notify", .seq [.str "$FOO"])] =
      some (.seq [.omap mEx2, waitDoc]) := by rfl
  rw [hlk]
  simp only
  rw [parse_inner]
  rfl

theorem parse_xsEx : parseSteps 2 xsEx = .ok (lEx, []) := by
  rw [xsEx, parseSteps.eq_2, parse_groupDoc]
  simp only
  rw [parseSteps.eq_2, parseStep.eq_2]
  have hw : StepKind.selectScalar Gen.scalarTable "wait" = .known .wait := by decide +kernel
  rw [hw]
  simp only
  rw [parseSteps.eq_1]
  rfl

theorem interp_lEx : Interp.interpSteps .env tfEx lEx = .ok l1Ex := by
  rw [lEx, Interp.interpSteps_cons, Interp.interpStep_group_some, Interp.interpSteps_cons,
    Interp.interpStep_command, interp_cEx2]
  rfl

theorem noUMap_xsEx : NoUMapList xsEx := by
  simp [xsEx, groupDoc, waitDoc, mEx2, NoUMapKVs, NoUMap, NoUMapList]

theorem keysNodup_xsEx : KeysNodupList xsEx := by
  simp [xsEx, groupDoc, waitDoc, mEx2, KeysNodup, KeysNodupKVs, KeysNodupList]

/-- `tfEx` rewrites `$FOO`, but no top-level key of a contents map / remainder is `$FOO`, and no `type` entry
    is present. -/
theorem treesFixed_ex : TreesFixed tfEx lEx := by
  simp only [lEx, TreesFixed, and_true]
  refine ⟨?_, ?_⟩
  · rw [treeFixed_group_some]
    refine ⟨?_, typeFixed_of_none rfl, ?_⟩
    · intro k hk
      simp only [Option.getD_some, List.map_cons, List.map_nil, List.mem_cons, List.not_mem_nil, or_false] at hk
      subst hk
      rfl
    · simp only [TreesFixed, and_true]
      refine ⟨?_, ?_⟩
      · rw [TreeFixed]
        exact ⟨keysFixed_ex, typeFixed_of_none rfl⟩
      · rw [waitEx, TreeFixed]
        refine ⟨?_, typeFixed_of_none rfl⟩
        intro k hk
        simp only [Option.getD_some, List.map_cons, List.map_nil, List.mem_cons, List.not_mem_nil, or_false] at hk
        rcases hk with rfl | rfl | rfl <;> rfl
  · rw [TreeFixed]
    exact ⟨fun k hk => by simp at hk, typeFixed_of_none rfl⟩

theorem stable_l1Ex : StableSteps l1Ex := by
  simp only [l1Ex, StableSteps, StableStep, and_true]
  refine ⟨⟨⟨stable_c1Ex2, ?_⟩, ?_, by simp, by simp⟩, ?_⟩
  · simp [wait1Ex, StableStep, StableUMap, JStableKVs, JStable]
  · simp [StableUMap, JStableKVs, JStable, JStableList]
  · simp [StableUMap, JStableKVs]

theorem sign_l1Ex : ∃ signed,
    signSteps toyScheme renderToy keyEx "toy-alg" "git@example.com:acme/app.git" penvEx l1Ex = .ok signed := by
  rw [l1Ex, Signing.signSteps_cons, Signing.signStep_group_some, Signing.signSteps_cons, Signing.signStep_command,
    wait1Ex, Signing.signSteps_cons, Signing.signStep_wait, Signing.signSteps_nil]
  simp only [Except.map]
  rw [Signing.signSteps_cons, Signing.signStep_wait, Signing.signSteps_nil]
  exact ⟨_, rfl⟩

/-- All hypotheses of `C02_interpolate_then_sign_steps` are jointly satisfiable on a list with a group that
    holds a command step and a mapping-form wait step, with a transformer that really rewrites strings (the
    group label, values, env names, plugin config keys, a key nested in the wait step's contents), with the toy
    scheme of C01: `SignSteps` succeeds and the re-parsed list verifies. -/
example : ∃ signed js ss' ws',
    signSteps toyScheme renderToy keyEx "toy-alg" "git@example.com:acme/app.git" penvEx l1Ex = .ok signed ∧
    mSteps signed = .ok js ∧ parseSteps 2 (rereadJList js) = .ok (ss', ws') ∧
    VerifiesAllList toyScheme parseToy (toyScheme.pubOf keyEx) "git@example.com:acme/app.git" env1Ex ss' := by
  obtain ⟨signed, hsigned⟩ := sign_l1Ex
  obtain ⟨js, ss', ws', h1, h2, h3⟩ := C02_interpolate_then_sign_steps toyScheme renderToy parseToy
    parseToy_render 2 xsEx lEx l1Ex [] noUMap_xsEx keysNodup_xsEx parse_xsEx tfEx interp_lEx treesFixed_ex
    stable_l1Ex keyEx "toy-alg" "git@example.com:acme/app.git" penvEx env1Ex envExtends_ex signed hsigned
  exact ⟨signed, js, ss', ws', hsigned, h1, h2, h3⟩

/-- The interpolated list is not the parsed one (the transformer is not the identity on this tree). -/
example : l1Ex ≠ lEx := by
  intro h
  simp [l1Ex, lEx] at h

/-! ### Kind redirection: the `TreeFixed` condition is needed for a wait step -/

/-- The parser's representation of `{wait: null, "$K": "rm -rf /"}` (sorted Go-map contents). -/
def waitK : Step := .wait "" (some [("$K", .str "rm -rf /"), ("wait", .null)])

/-- Sends the key `$K` to the kind-determining key `command`. -/
def tfK : String → Except Unit String := fun s => .ok (if s = "$K" then "command" else s)

def waitK1 : Step := .wait "" (some [("command", .str "rm -rf /"), ("wait", .null)])

example : parseStep 1 (.omap [("wait", .null), ("$K", .str "rm -rf /")]) = .ok (waitK, []) := by
  rw [parseStep.eq_3]; rfl

/-- The parsed step is well-formed, with distinct keys. -/
example : StepOK waitK ∧ MapsNodup waitK := by
  refine ⟨?_, by simp [waitK, MapsNodup]⟩
  simp only [waitK, StepOK, if_pos, Option.getD_some]
  exact .inr (eq_ok_of_decide (by decide +kernel))

/-- The transformer does not fix the key `$K`. -/
example : ¬ TreeFixed tfK waitK := by
  intro h
  rw [waitK, TreeFixed] at h
  have := h.1 "$K" (by simp)
  simp [tfK] at this

/-- Interpolation succeeds ... -/
example : Interp.interpStep .env tfK waitK = .ok waitK1 := by rfl

theorem selOf_waitK1 : selOf [("command", Val.str "rm -rf /"), ("wait", .null)] = .ok (.known .command) := eq_ok_of_decide (by decide +kernel)

/-- ... the result is NOT well-formed: its contents select the command kind ... -/
example : ¬ StepOK waitK1 := by
  simp only [waitK1, StepOK, if_pos, Option.getD_some]
  rw [selOf_waitK1]
  simp

/-- The command step the marshalled form re-parses to: the former wait marker is now an unknown field. -/
def cK : CommandStep :=
  { key := "", label := "", command := "rm -rf /", plugins := none, env := none, signature := none,
    matrix := none, cache := none, rem := some [("wait", .null)] }

/-- ... and its marshalled form re-parses as a COMMAND step running `rm -rf /` (it would then be refused by
    signature verification, or run unsigned where verification is not enforced). -/
example : ∃ j, mStep waitK1 = .ok j ∧ parseStep 1 (rereadJ j) = .ok (.command cK, []) := by
  refine ⟨.umap [("command", .str "rm -rf /"), ("wait", .null)], by rfl, ?_⟩
  have hr : rereadJ (.umap [("command", .str "rm -rf /"), ("wait", .null)]) =
      .omap [("command", .str "rm -rf /"), ("wait", .null)] := by
    simp [rereadJ, rereadJKVs]
  rw [hr, parseStep.eq_3]
  rfl

end ExampleInterp

end GoPipeline.SignedRT
