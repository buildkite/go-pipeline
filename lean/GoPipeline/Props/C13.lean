/-
  C13 — parse is total; a usable result is complete (one step per entry, unknown fallback reported);
  marshalling a parsed pipeline succeeds.
  The lemmas the proofs rest on are in `GoPipeline/Lemmas/Parse13.lean`.

  `parsePipeline : Val → Except Hard (Pipeline × List Warn)` is a total Lean function on the decoded
  document, so "returns, never panics" holds of the model by construction; the model starts at the
  node graph yaml.v3 produced (DESIGN.md, `C13_bytes_partial`: the byte level — scanner, parser, Go runtime limits —
  is exercised by the harness only; the alias/merge expansion in between is C07's subject).
-/
import GoPipeline.Lemmas.Parse13
import GoPipeline.Lemmas.ValEq
namespace GoPipeline.Parse
open GoPipeline GoPipeline.Pipe GoPipeline.Marshal

/-- A usable result has a non-nil step list. -/
theorem C13_steps_non_nil (v : Val) (p : Pipeline) (ws : List Warn) (h : parsePipeline v = .ok (p, ws)) :
    ∃ l, p.steps = some l := steps_non_nil v p ws h

/-- Exactly one step per entry of the input step sequence, in the same order: the i-th step is the
    parse of the i-th entry. -/
theorem C13_one_step_per_entry (v : Val) (p : Pipeline) (ws : List Warn) (h : parsePipeline v = .ok (p, ws)) :
    ∃ xs l, entries v = some xs ∧ p.steps = some l ∧
      List.Forall₂ (fun x s => ∃ w, parseStep stepFuel x = .ok (s, w)) xs l := by
  obtain ⟨xs, l, ws', he, hl, hps⟩ := parsePipeline_ok h
  exact ⟨xs, l, he, hl, parseSteps_forall₂ hps⟩

/-- Recursively inside groups. -/
theorem C13_group_complete (f : Nat) (m : Unm.Entries) (k : String) (g : Option String) (ss : Option (List Step))
    (r : UMap Val) (w : List Warn) (h : parseStep (f + 1) (.omap m) = .ok (.group k g ss r, w)) :
    ∃ xs l, entries (.omap m) = some xs ∧ ss = some l ∧
      List.Forall₂ (fun x s => ∃ w', parseStep f x = .ok (s, w')) xs l := by
  refine (parse_induction (PL := fun _ _ _ _ => True)
    (P := fun n x s _ => ∀ k g ss r, s = .group k g ss r → ∃ xs l, entries x = some xs ∧ ss = some l ∧
      List.Forall₂ (fun x s => ∃ w', parseStep (n - 1) x = .ok (s, w')) xs l)
    (unknown := fun _ _ _ _ _ _ _ e => nomatch e) (scalarWait := fun _ _ _ _ _ _ _ e => nomatch e)
    (scalarInput := fun _ _ _ _ _ _ _ e => nomatch e) (command := fun _ _ _ _ _ _ _ _ _ e => nomatch e)
    (wait := fun _ _ _ _ _ _ _ e => nomatch e) (input := fun _ _ _ _ _ _ _ e => nomatch e)
    (trigger := fun _ _ _ _ _ _ _ e => nomatch e) (group := ?_) (nil := fun _ => trivial)
    (cons := fun _ _ _ _ _ _ _ _ _ => trivial)).1 (f + 1) _ _ w h k g ss r rfl
  intro f m key grp xs l _ he hps _ k g ss r e
  cases e
  exact ⟨xs, l, he, rfl, parseSteps_forall₂ hps⟩

/-- Unrecognised or malformed steps are kept verbatim as unknown steps, and each such fallback is
    reported: a step is unknown only with its input entry as contents and with a warning … -/
theorem C13_unknown_is_verbatim_and_warned (f : Nat) (x c : Val) (w : List Warn)
    (h : parseStep f x = .ok (.unknown c, w)) : c = x ∧ w ≠ [] := by
  rcases parseStep_shape h with ⟨hu, _⟩ | ⟨hs, a, rfl⟩
  · cases hu
  · exact ⟨Step.unknown.inj hs, List.cons_ne_nil _ _⟩

/-- … and every other step comes without a warning. -/
theorem C13_known_step_no_warning (f : Nat) (x : Val) (s : Step) (w : List Warn)
    (h : parseStep f x = .ok (s, w)) (hk : isUnknown s = false) : w = [] := by
  rcases parseStep_shape h with ⟨_, hw⟩ | ⟨rfl, _⟩
  · exact hw
  · cases hk

/-- One warning per fallback: the warnings of a step list are as many as its unknown steps. -/
theorem C13_one_warning_per_fallback (f : Nat) (xs : List Val) (ss : List Step) (ws : List Warn)
    (h : parseSteps f xs = .ok (ss, ws)) : ws.length = (ss.filter isUnknown).length := by
  induction xs generalizing ss ws with
  | nil =>
    rw [parseSteps_nil] at h
    cases h
    rfl
  | cons v r ih =>
    obtain ⟨s, w, ss', ws', hs, hss, rfl, rfl⟩ := parseSteps_cons_ok h
    have ih := ih ss' ws' hss
    rcases parseStep_shape hs with ⟨hu, rfl⟩ | ⟨rfl, a, rfl⟩
    · rw [List.filter_cons_of_neg (by simp [hu])]
      exact ih
    · rw [List.filter_cons_of_pos rfl, List.length_cons, ← ih]
      rfl

/-- Hard errors of a step list arise only from the enumerated causes: an entry that is neither a
    string nor a mapping, or a mapping whose `type` is not a string. -/
theorem C13_hard_error_causes (f : Nat) (xs : List Val) (e : Hard) (h : parseSteps (f + 1) xs = .error e) :
    ∃ x ∈ xs, ((∀ s, x ≠ .str s) ∧ (∀ m, x ≠ .omap m)) ∨
              (∃ m t, x = .omap m ∧ m.lookup "type" = some t ∧ ∀ s, t ≠ .str s) := by
  induction xs generalizing e with
  | nil => rw [parseSteps_nil] at h; cases h
  | cons v r ih =>
    rw [parseSteps_cons] at h
    split at h
    · rename_i e' he
      exact ⟨v, List.mem_cons_self, parseStep_error he⟩
    · split at h
      · rename_i e' he
        obtain ⟨x, hx, hc⟩ := ih e' he
        exact ⟨x, List.mem_cons_of_mem _ hx, hc⟩
      · cases h

/-- A malformed typed step (e.g. a list where a string belongs) never aborts the parse: it falls back. -/
theorem C13_malformed_step_falls_back (f : Nat) (m : Unm.Entries) (h : ∀ t, m.lookup "type" = some t → ∃ s, t = .str s) :
    ∃ s w, parseStep (f + 1) (.omap m) = .ok (s, w) := by
  obtain ⟨sel, hsel⟩ := selOf_total h
  exact parseStep_omap_total hsel

/-- Marshalling the parsed pipeline to JSON succeeds (the only marshalling error of the model — an
    empty input step — cannot come out of the parser; `MarshalYAML` of wait/input steps shares that condition). -/
theorem C13_marshal_succeeds (v : Val) (p : Pipeline) (ws : List Warn) (h : parsePipeline v = .ok (p, ws)) :
    ∃ j, mPipeline p = .ok j := marshal_succeeds v p ws h

/-! Non-vacuity -/
example : ∃ p, parsePipeline (.omap [("x", .int 1), ("steps", .seq [.str "wait", .omap [("foo", .str "bar")], .omap [("command", .seq [.omap []])]])])
    = .ok (p, [.inferFail, .fellBack]) := by
  -- the kernel cannot run `parseStep`/`parseSteps` (well-founded recursion): their equations are applied
  -- by hand, the selections and lookups in between are evaluated by the kernel
  have h1 : parseStep stepFuel (.str "wait") = .ok (.wait "wait" none, []) := by
    rw [stepFuel_succ, parseStep.eq_2,
      (by decide +kernel : StepKind.selectScalar Gen.scalarTable "wait" = .known .wait)]
  have h2 : parseStep stepFuel (.omap [("foo", .str "bar")]) =
      .ok (.unknown (.omap [("foo", .str "bar")]), [.inferFail]) :=
    parseStep_inferFail (by decide +kernel)
  have h3 : parseStep stepFuel (.omap [("command", .seq [.omap []])]) =
      .ok (.unknown (.omap [("command", .seq [.omap []])]), [.fellBack]) :=
    parseStep_command_fallback (by decide +kernel) (by decide +kernel)
  have hs : parseSteps stepFuel [.str "wait", .omap [("foo", .str "bar")], .omap [("command", .seq [.omap []])]] =
      .ok ([.wait "wait" none, .unknown (.omap [("foo", .str "bar")]), .unknown (.omap [("command", .seq [.omap []])])],
           [.inferFail, .fellBack]) := by
    rw [parseSteps_cons, h1, parseSteps_cons, h2, parseSteps_cons, h3, parseSteps_nil]; rfl
  exact ⟨_, parsePipeline_omap_seq (by decide +kernel) hs (env := none) (by decide +kernel)⟩

end GoPipeline.Parse
