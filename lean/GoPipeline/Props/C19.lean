/-
  C19 (partial) — no hidden shared state; observers do not mutate.

  What the model can carry: (1) no function of the module writes to a package-level variable after
  initialisation (fact regenerated from the source of every package); (2) in the slot-level model of the
  ordered map every observer is a function *of* the state that returns no state, so any interleaving of
  observer calls leaves the state fixed and gives each call its sequential answer.
  What it cannot exhibit: goroutine interleavings and the Go memory model (data races) — exercised by
  the harness under the race detector only.
-/
import GoPipeline.Model.OMap
import GoPipeline.Gen.Globals
import GoPipeline.Gen.Observers
namespace GoPipeline.OMap

/-- No statement in any function body assigns to, increments or takes the address of a package-level
    variable (so the only shared state are values reachable from the caller's own objects). -/
theorem C19_no_global_writes : Gen.globalWrites = [] ∧ Gen.globalsRecognised = true := by decide

/-- The functions the library offers as observers of a caller's object: the lookups and iteration of the
    ordered map, equality and the recursive plain-map view, every `MarshalJSON` / `MarshalYAML`, the matrix
    validators, plugin source expansion, `Sign`, `Verify`, the signed-field accessors of a command step and the
    option plumbing (`WithEnv` adopts the caller's map). -/
def expectedObservers : List String :=
  ["ordered.Map.Len", "ordered.Map.IsZero", "ordered.Map.Get", "ordered.Map.Contains", "ordered.Map.Range",
   "ordered.Map.ToMap", "ordered.Map.MarshalJSON", "ordered.Map.MarshalYAML", "ordered.Equal", "ordered.ToMapRecursive",
   "pipeline.Pipeline.MarshalJSON", "pipeline.CommandStep.MarshalJSON", "pipeline.GroupStep.MarshalJSON",
   "pipeline.Plugin.MarshalJSON", "pipeline.Plugin.MarshalYAML", "pipeline.Plugin.FullSource",
   "pipeline.Matrix.MarshalJSON", "pipeline.Matrix.MarshalYAML", "pipeline.Matrix.validatePermutation",
   "pipeline.MatrixAdjustment.ShouldSkip", "pipeline.MatrixSetup.MarshalJSON", "pipeline.MatrixSetup.MarshalYAML",
   "pipeline.UnknownStep.MarshalJSON", "pipeline.UnknownStep.MarshalYAML",
   "signature.Sign", "signature.Verify", "signature.CommandStepWithInvariants.SignedFields",
   "signature.CommandStepWithInvariants.ValuesForFields", "signature.envOption.apply", "signature.configureOptions"]

/-- In none of the observer functions does a statement write through the receiver or a parameter: no assignment,
    increment or `delete` whose target is reached from one of them (through selectors, indices, slices,
    dereferences, type assertions, conversions, range values or local aliases of these), no in-place mutator
    (`sort.*`, `slices.Sort*` / `Compact*` / `Reverse` / `Insert`, `maps.DeleteFunc` / `Copy`, `clear`, `copy`, `append`)
    applied to such a value, no mutating method of the ordered map called on it — a syntactic over-approximation
    regenerated from the source (Gen/Observers); and every expected observer was found under its name. -/
theorem C19_observers_do_not_write_through_arguments :
    Gen.observerWrites = [] ∧ expectedObservers.all (Gen.observersFound.contains ·) = true := by
  refine ⟨rfl, List.all_eq_true.2 ?_⟩
  simp only [expectedObservers, List.forall_mem_cons, List.contains_iff_mem, List.not_mem_nil,
    false_imp_iff, implies_true, and_true]
  -- each name is found by position (`List.Mem.head` on equal literals, else `List.Mem.tail`);
  -- `decide` would unpack every string literal into bytes, which is slow on a table of this size
  repeat' constructor

variable {V : Type}

/-- The read-only operations of `ordered.Map`. -/
inductive Obs (V : Type) where
  | len | isZero | get (k : String) | contains (k : String) | range | equalTo (other : Option (CMap V))

inductive Ans (V : Type) where
  | nat (n : Nat) | bool (b : Bool) | val (v : Option V) | pairs (l : List (String × V))

def observe (veq : V → V → Bool) (c : CMap V) : Obs V → Ans V
  | .len => .nat (len c)
  | .isZero => .bool (isZero c)
  | .get k => .val (get c k)
  | .contains k => .bool (contains c k)
  | .range => .pairs (range c)
  | .equalTo o => .bool (equal veq (some c) o)

/-- One observer call as a state transition: the state component is the identity. -/
def obsStep (veq : V → V → Bool) (c : CMap V) (o : Obs V) : CMap V × Ans V := (c, observe veq c o)

/-- Any sequence (hence any interleaving of the calls of several readers) of observer calls leaves the
    map's concrete state — slots, tombstones, index — exactly as it was … -/
theorem C19_observers_leave_state (veq : V → V → Bool) (c : CMap V) (os : List (Obs V)) :
    os.foldl (fun s o => (obsStep veq s o).1) c = c := by
  induction os with
  | nil => rfl
  | cons o r ih => simpa [obsStep] using ih

/-- … and each call returns what it returns when made alone on the original map. -/
theorem C19_observer_answers_sequential (veq : V → V → Bool) (c : CMap V) (pre : List (Obs V)) (o : Obs V) :
    (obsStep veq (pre.foldl (fun s o' => (obsStep veq s o').1) c) o).2 = observe veq c o := by
  rw [C19_observers_leave_state]; rfl

/-! A state of the kind the observers are run on: three slots for two pairs, one a tombstone. -/
example : (run (newMap : CMap Nat) [.set "a" 1, .set "b" 2, .set "c" 3, .delete "b"]).items.length = 3 := by decide

end GoPipeline.OMap
