/-
  C04 — env interpolation reaches every string exactly once, deterministically; and the step-level
  scope of C12 (which fields the matrix transformer touches).
  The theorems delegate to `GoPipeline/Lemmas/Interp.lean`; the visit table is stated and checked here.
-/
import GoPipeline.Lemmas.Interp
import GoPipeline.Lemmas.ValEq  -- decidable equality of values, for the test vectors at the end
import GoPipeline.Gen.InterpVisits
namespace GoPipeline.Interp
open GoPipeline GoPipeline.Pipe

variable {E : Type}

/-! ### Collision freedom: why the hypotheses are the primed predicates

  The Model's `NoCollide*` ask, for every mapping, that the images of its keys be pairwise distinct
  (`keysNoCollide g ks := (ks.map g).Nodup`).  For ordered maps that is NOT enough for
  "every string is transformed exactly once".  Counterexample (`#eval`ed at the end of
  `Lemmas/Interp.lean`): `g a = b`, `g b = c`, value `{a: x, b: y}`.  The images `b, c` are distinct,
  but `interpolateOrderedMap` renames `a → b` with `Replace` while the original entry `b` is still
  ahead of the range cursor; `Replace` deletes that entry, it is never visited, and the result is
  `{b: x}` instead of `{b: x, c: y}`.

  The primed predicates (`NoCollideVal'`, …, `NoCollideStep'`, defined in `Lemmas/Interp.lean`) are the
  unprimed ones with, at every ordered-map node, `keysFresh g ks` in place of `keysNoCollide g ks`:

      keysFresh g ks := (ks.map g).Nodup ∧ ∀ k ∈ ks, g k = k ∨ g k ∉ ks

  i.e. additionally a key that is renamed is renamed to a string that is not a key of the same
  mapping.  For Go maps (`umap` nodes and all `UMap` fields) no condition on the keys is required:
  model and specification build the result map by the same later-wins insertion. -/

/-! ### Every string is transformed exactly once (`interp = mapStrings`) -/

/-- Untyped values (unknown fields, unknown steps, plugin configs): keys and values at any depth. -/
theorem C04_val (g : String → String) (v : Val) (h : NoCollideVal' g v) :
    interpVal (pureTf E g) v = .ok (mapVal g v) := interpVal_eq g v h

/-- Every step kind, groups recursively; under env interpolation everything but the signature,
    under matrix interpolation exactly command, label, plugins, env values and unknown fields. -/
theorem C04_step (kind : TfKind) (g : String → String) (s : Step) (h : NoCollideStep' g s) :
    interpStep kind (pureTf E g) s = .ok (mapStep g kind s) := interpStep_eq kind g s h

theorem C04_steps (kind : TfKind) (g : String → String) (l : List Step) (h : NoCollideSteps' g l) :
    interpSteps kind (pureTf E g) l = .ok (mapSteps g kind l) := interpSteps_eq kind g l h

/-- The pipeline after the env block: all steps and the top-level extras. -/
theorem C04_pipeline (g : String → String) (p : Pipeline)
    (hs : ∀ l, p.steps = some l → NoCollideSteps' g l) (hr : NoCollideUMapV' g p.rem) :
    interpPipelineRest (pureTf E g) p = .ok (mapPipelineRest g p) := by
  have h1 : optM (interpSteps .env (pureTf E g)) p.steps = .ok (p.steps.map (mapSteps g .env)) :=
    optM_eq _ _ _ (fun l hl => interpSteps_eq .env g l (hs l hl))
  simp only [interpPipelineRest, h1, interpUMapV_eq g p.rem hr, mapPipelineRest]

/-! ### Determinism, structure, signature -/

/-- The result is a function of the input (no dependence on iteration order is left: Go-map walks
    use a sorted snapshot). Without the collision-freedom hypothesis too. -/
theorem C04_deterministic (kind : TfKind) (tf : String → Except E String) (s : Step) (r₁ r₂ : Except E Step)
    (h₁ : interpStep kind tf s = r₁) (h₂ : interpStep kind tf s = r₂) : r₁ = r₂ := by rw [← h₁, ← h₂]

/-- Nothing else in the structure changes: same number of steps, same kinds, in the same order. -/
theorem C04_structure (kind : TfKind) (tf : String → Except E String) (l l' : List Step)
    (h : interpSteps kind tf l = .ok l') : l'.map stepTag = l.map stepTag := interpSteps_tags kind tf l l' h

/-- Step signatures are left untouched, by either transformer, whether or not strings collide. -/
theorem C04_signature_untouched (kind : TfKind) (tf : String → Except E String) (c c' : CommandStep)
    (h : interpCommand kind tf c = .ok c') : c'.signature = c.signature := interpCommand_signature kind tf c c' h

/-! ### Errors -/

/-- If the call fails, the error is the error of one of the strings handed to the transformer. -/
theorem C04_error_from_string (kind : TfKind) (tf : String → Except E String) (s : Step) (e : E)
    (h : interpStep kind tf s = .error e) : ∃ x ∈ stringsStep kind s, tf x = .error e :=
  interpStep_errFrom kind tf s e h

/-- If every string expands, the call succeeds. -/
theorem C04_ok_of_all_ok (kind : TfKind) (tf : String → Except E String) (s : Step)
    (h : ∀ x ∈ stringsStep kind s, ∃ y, tf x = .ok y) : ∃ s', interpStep kind tf s = .ok s' :=
  (interpStep_errFrom kind tf s).ok_of_forall h

/-! ### C12 scope: what the matrix transformer may touch -/

/-- Env names, the step key, the matrix definition, the cache settings and the signature are unchanged
    by matrix interpolation, whatever the transformer does. -/
theorem C12_scope_untouched (tf : String → Except E String) (c c' : CommandStep)
    (h : interpCommand .matrix tf c = .ok c') :
    c'.key = c.key ∧ c'.matrix = c.matrix ∧ c'.signature = c.signature ∧ c'.cache = c.cache ∧
    c'.env.map (·.map (·.1)) = c.env.map (·.map (·.1)) := interpCommand_matrix_scope tf c c' h

/-- Command, label, plugin sources and configs, env values and unknown fields are transformed. -/
theorem C12_scope_transformed (g : String → String) (c : CommandStep) (h : NoCollideCommand' g c) :
    interpCommand .matrix (pureTf E g) c = .ok (mapCommandMatrix g c) := interpCommand_matrix_eq g c h

/-! ### Coverage obligation: the visit table measured on the compiled code (taint run, regenerated
    on every run) is the table this model implements. Rows: (type, position, visits under the env
    transformer, visits under the matrix transformer). -/

def expectedVisits : List (String × String × Nat × Nat) :=
  [ ("CommandStep", "Command", 1, 1), ("CommandStep", "Label", 1, 1), ("CommandStep", "Key", 1, 0),
    ("CommandStep", "Plugins.Source", 1, 1), ("CommandStep", "Plugins.Config.key", 1, 1), ("CommandStep", "Plugins.Config.value", 1, 1),
    ("CommandStep", "Env.key", 1, 0), ("CommandStep", "Env.value", 1, 1),
    ("CommandStep", "Signature.Algorithm", 0, 0), ("CommandStep", "Signature.SignedFields", 0, 0), ("CommandStep", "Signature.Value", 0, 0),
    ("CommandStep", "Matrix.Setup.key", 1, 0), ("CommandStep", "Matrix.Setup.value", 1, 0),
    ("CommandStep", "Matrix.Adjustments.With.key", 1, 0), ("CommandStep", "Matrix.Adjustments.With.value", 1, 0),
    ("CommandStep", "Matrix.Adjustments.Skip", 1, 0),
    ("CommandStep", "Matrix.Adjustments.RemainingFields.key", 1, 0), ("CommandStep", "Matrix.Adjustments.RemainingFields.value", 1, 0),
    ("CommandStep", "Matrix.RemainingFields.key", 1, 0), ("CommandStep", "Matrix.RemainingFields.value", 1, 0),
    ("CommandStep", "Cache.Name", 1, 0), ("CommandStep", "Cache.Paths", 1, 0), ("CommandStep", "Cache.Size", 1, 0),
    ("CommandStep", "Cache.RemainingFields.key", 1, 0), ("CommandStep", "Cache.RemainingFields.value", 1, 0),
    ("CommandStep", "RemainingFields.key", 1, 1), ("CommandStep", "RemainingFields.value", 1, 1),
    ("CommandStep", "RemainingFields.nested-omap.key", 1, 1), ("CommandStep", "RemainingFields.nested-omap.value", 1, 1),
    ("CommandStep", "RemainingFields.nested-seq", 1, 1),
    ("GroupStep", "Key", 1, 1), ("GroupStep", "Group", 1, 1), ("GroupStep", "Steps.Command", 1, 1),
    ("GroupStep", "RemainingFields.key", 1, 1), ("GroupStep", "RemainingFields.value", 1, 1),
    ("WaitStep", "Scalar", 0, 0), ("WaitStep", "Contents.key", 1, 1), ("WaitStep", "Contents.value", 1, 1),
    ("InputStep", "Scalar", 0, 0), ("InputStep", "Contents.key", 1, 1), ("InputStep", "Contents.value", 1, 1),
    ("TriggerStep", "Contents.key", 1, 1), ("TriggerStep", "Contents.value", 1, 1),
    ("UnknownStep", "Contents.key", 1, 1), ("UnknownStep", "Contents.value", 1, 1), ("UnknownStep", "Contents.scalar", 1, 1),
    ("Pipeline", "Steps.Command", 1, 0), ("Pipeline", "RemainingFields.key", 1, 0), ("Pipeline", "RemainingFields.value", 1, 0) ]

theorem C04_visit_table : Gen.interpVisits = expectedVisits := rfl

/-! Non-vacuity -/
example : NoCollideVal' (fun s => s ++ "!") (.omap [("a", .str "x"), ("b", .seq [.str "y", .int 1])]) := by
  exact ⟨by unfold keysFresh; decide +kernel, trivial, ⟨trivial, trivial, trivial⟩, trivial⟩

example : interpVal (pureTf Unit (fun s => s ++ "!")) (.omap [("a", .str "x"), ("b", .seq [.str "y", .int 1])])
    = .ok (.omap [("a!", .str "x!"), ("b!", .seq [.str "y!", .int 1])]) := by decide +kernel

end GoPipeline.Interp
