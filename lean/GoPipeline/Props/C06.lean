/-
  C06 — signing a step list signs every command step at every depth, or refuses.
  The lemmas the statements rest on are in `GoPipeline/Lemmas/Signing.lean`.
-/
import GoPipeline.Lemmas.Signing
namespace GoPipeline.Signing
open GoPipeline GoPipeline.Pipe GoPipeline.Marshal

variable (S : SigScheme) (render : S.Sig → String)

/-- A step of unknown kind anywhere in the list (any position, any depth) ⇒ error; and conversely
    success ⇒ no unknown step anywhere. -/
theorem C06_refuses_iff_unknown (key : S.Key) (alg repo : String) (penv : List (String × String)) (l : List Step) :
    (∃ l', signSteps S render key alg repo penv l = .ok l') ↔ hasUnknownList l = false :=
  refuses_list S render key alg repo penv l

/-- Signing changes nothing in the steps other than attaching signatures. -/
theorem C06_only_signatures_change (key : S.Key) (alg repo : String) (penv : List (String × String))
    (l l' : List Step) (h : signSteps S render key alg repo penv l = .ok l') :
    eraseSigs l' = eraseSigs l := erase_list S render key alg repo penv l l' h

/-- Every command step at every depth of the result carries the signature `sign` makes for it:
    the key's algorithm name, and as signed-field list exactly the five mandatory fields plus one
    `env::NAME` per pipeline env variable not shadowed by that step's own env, sorted. -/
theorem C06_every_command_signed (key : S.Key) (alg repo : String) (penv : List (String × String))
    (l l' : List Step) (h : signSteps S render key alg repo penv l = .ok l') :
    List.Forall₂ (fun c c' =>
        c' = attach S render (sign S key alg c repo penv) c ∧
        (∃ s, c'.signature = some s ∧ s.algorithm = alg ∧
              s.signedFields = some (sortStrs ((signValues c repo penv).map (·.1)))))
      (commandsOfList l) (commandsOfList l') := signed_list S render key alg repo penv l l' h

/-- The signed-field list, spelled out: mandatory fields and `env::NAME` for each unshadowed variable
    (as a set; `sortStrs` orders it). -/
theorem C06_field_list (c : CommandStep) (repo : String) (penv : List (String × String)) (f : String) :
    f ∈ (signValues c repo penv).map (·.1) ↔
      f ∈ mandatoryFields ∨ ∃ name v, (name, v) ∈ penv ∧ name ∉ objEnvNames (Marshal.umapOf (signedFields c repo)) c ∧
        f = envNamespacePrefix ++ name := by
  rw [shadow_eq]; exact field_list c repo penv f

/-- The shadowing set is the step's own env names (when it has any). -/
theorem C06_shadow_set (c : CommandStep) (repo : String) :
    objEnvNames (Marshal.umapOf (signedFields c repo)) c =
      (match c.env with | some (e :: es) => (e :: es).map (·.1) | _ => []) := by
  rw [shadow_eq]
  cases c.env with
  | none => rfl
  | some l => cases l <;> rfl

/-- Each attached signature verifies (with the matching public key, the same repository URL, and any
    env agreeing with the pipeline env on unshadowed names). -/
theorem C06_signatures_verify (key : S.Key) (alg repo : String) (penv env₁ : List (String × String))
    (hp : (penv.map (·.1)).Nodup) (hp₁ : (env₁.map (·.1)).Nodup) (c : CommandStep)
    (hsub : ∀ name v, (name, v) ∈ penv → name ∉ (c.env.getD []).map (·.1) → env₁.lookup name = some v) :
    verify S (sign S key alg c repo penv) (S.pubOf key) c repo env₁ = .ok () :=
  complete S key alg c repo penv env₁ hp hp₁ hsub

/-- Wait, input and trigger steps are left untouched. -/
theorem C06_other_kinds_untouched (key : S.Key) (alg repo : String) (penv : List (String × String)) (s : Step)
    (h : ∀ c, s ≠ .command c) (hg : ∀ k g ss r, s ≠ .group k g ss r) (hu : ∀ v, s ≠ .unknown v) :
    signStep S render key alg repo penv s = .ok s := by
  cases s with
  | command c => exact absurd rfl (h c)
  | wait a b => exact signStep_wait S render key alg repo penv a b
  | input a b => exact signStep_input S render key alg repo penv a b
  | trigger a => exact signStep_trigger S render key alg repo penv a
  | group k g ss r => exact absurd rfl (hg k g ss r)
  | unknown v => exact absurd rfl (hu v)

end GoPipeline.Signing
