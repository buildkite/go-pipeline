/-
  C17 — plugin source canonicalisation follows the documented rules and is idempotent.
-/
import GoPipeline.Lemmas.PluginSourceIdem
namespace GoPipeline.PluginSrc

/-- The property's domain: characters of the documented forms, and a ref (text after the first
    `#`) whose `/`-separated components are non-empty and neither `.` nor `..`. -/
def Dom (s : Str) : Prop :=
  (∀ c ∈ s, isDomChar c = true) ∧
  ((cutHash s).2 = [] ∨ ∀ comp ∈ splitOn '/' (cutHash s).2, comp ≠ [] ∧ comp ≠ ['.'] ∧ comp ≠ ['.', '.'])

/-- `name[#ref]` ↦ `github.com/buildkite-plugins/name-buildkite-plugin[#ref]`. -/
theorem C17_bare_name (n : Str) (hn : NameOK n) (ref : Option Str) (hr : RefOptOK ref) :
    fullSource (withRef n ref) =
      some (withRef (githubCom ++ '/' :: bkPlugins ++ '/' :: n ++ suffix) ref) := by
  have h := short_form n [] hn (fun _ h => absurd h List.not_mem_nil) ref hr
  rw [List.append_nil, splitOn_of_not_mem (name_not_mem hn.2.1 (by decide))] at h
  simp only at h
  rw [h, lastSegment_withRef _ _ hr]

/-- `org/name[#ref]` ↦ `github.com/org/name-buildkite-plugin[#ref]`. -/
theorem C17_org_name (o n : Str) (ho : NameOK o) (hn : NameOK n) (ref : Option Str) (hr : RefOptOK ref) :
    fullSource (withRef (o ++ '/' :: n) ref) =
      some (withRef (githubCom ++ '/' :: o ++ '/' :: n ++ suffix) ref) := by
  have h := short_form o ('/' :: n) ho
    (List.forall_mem_cons.2 ⟨Or.inr rfl, fun c hc => Or.inl (hn.2.1 c hc)⟩) ref hr
  rw [splitOn_append_sep _ (name_not_mem ho.2.1 (by decide)),
    splitOn_of_not_mem (name_not_mem hn.2.1 (by decide))] at h
  simp only at h
  rw [h, lastSegment_withRef _ _ hr]

/-- Paths (leading `/`, `.` or `\`) are left as written. -/
theorem C17_paths_unchanged (c : Char) (r : Str) (hc : c = '/' ∨ c = '.' ∨ c = '\\') :
    fullSource (c :: r) = some (c :: r) := by
  unfold fullSource
  rcases hc with hc | hc | hc <;> simp [hc]

/-- Sources with a scheme (`https://…`, `ssh://…`, `file:///…`, Windows drive `C:\…`) are left as written:
    a letter, then letters/digits/`+`/`-`/`.`, then `:`. -/
theorem C17_scheme_unchanged (a : Char) (sch rest : Str) (ha : isAlpha a = true)
    (hs : ∀ c ∈ sch, isAlpha c = true ∨ isSchemeTail c = true)
    (hdom : ∀ c ∈ a :: sch ++ ':' :: rest, isDomChar c = true) :
    fullSource (a :: sch ++ ':' :: rest) = some (a :: sch ++ ':' :: rest) := by
  apply fullSource_unchanged _ hdom
  left
  have hn : '#' ∉ a :: sch := by
    intro hm
    rcases List.mem_cons.1 hm with hm | hm
    · exact ne_of_test ha (by decide) hm.symm
    · rcases hs _ hm with h | h
      · exact ne_of_test h (by decide) rfl
      · exact ne_of_test h (by decide) rfl
  rw [cutHash_append _ hn, cutHash_cons_ne _ (by decide)]
  simp only [List.cons_append]
  rw [getScheme, getSchemeFrom]
  simp only [ha, ↓reduceIte]
  rw [getSchemeFrom_scheme _ _ _ hs]
  simp

/-- scp-style sources (`user@host:path`) are left as written. -/
theorem C17_scp_unchanged (user host path : Str) (hu : NameOK user)
    (hh : ∀ c ∈ host, isNameChar c = true) (hdom : ∀ c ∈ path, isDomChar c = true) :
    fullSource (user ++ '@' :: host ++ ':' :: path) = some (user ++ '@' :: host ++ ':' :: path) := by
  have hd : ∀ c ∈ user ++ '@' :: host ++ ':' :: path, isDomChar c = true := by
    simp only [List.forall_mem_append, List.forall_mem_cons]
    exact ⟨⟨name_dom hu.2.1, by decide, name_dom hh⟩, by decide, hdom⟩
  apply fullSource_unchanged _ hd
  right; left
  have hfree : ∀ d, isNameChar d = false → d ≠ '@' → d ≠ ':' → d ∉ user ++ '@' :: host ++ [':'] := by
    intro d hd h1 h2
    simp only [List.mem_append, List.mem_cons, List.not_mem_nil, or_false, not_or]
    exact ⟨⟨name_not_mem hu.2.1 hd, h1, name_not_mem hh hd⟩, h2⟩
  have e : user ++ '@' :: host ++ ':' :: path = (user ++ '@' :: host ++ [':']) ++ path := by simp
  rw [e, cutHash_append _ (hfree '#' (by decide) (by decide) (by decide))]
  cases hsp : splitOn '/' (cutHash path).1 with
  | nil => exact absurd hsp (splitOn_ne_nil _ _)
  | cons x t =>
    simp only
    rw [splitOn_append (hfree '/' (by decide) (by decide) (by decide)) hsp]
    simp

/-- Sources with three or more path segments (e.g. with a host prefix) are left as written. -/
theorem C17_three_segments_unchanged (a b rest : Str) (ha : NameOK a) (hb : ∀ c ∈ b, isNameChar c = true)
    (hrest : ∀ c ∈ rest, isDomChar c = true) (hnh : '#' ∉ a ++ '/' :: b) :
    fullSource (a ++ '/' :: b ++ '/' :: rest) = some (a ++ '/' :: b ++ '/' :: rest) :=
  three_segments_unchanged a b rest ha hb hrest

/-- Inside the domain the modelled part of `url.Parse` is never left. -/
theorem C17_total_on_dom (s : Str) (hd : Dom s) : ∃ r, fullSource s = some r := total_on_dom s hd.1

/-- Canonicalising an already canonical source returns it unchanged. -/
theorem C17_idempotent (s r : Str) (hd : Dom s) (h : fullSource s = some r) : fullSource r = some r :=
  idempotent s r hd h

/-- The canonical form stays inside the domain, so the statement can be iterated. -/
theorem C17_result_in_dom (s r : Str) (hd : Dom s) (h : fullSource s = some r) : Dom r :=
  have ⟨h1, h2⟩ := result_in_dom s r hd.1 h
  ⟨h1, h2 ▸ hd.2⟩

/-! Non-vacuity (`rw`: evaluating `toList` of a literal is slow) -/
example : fullSource "docker#v1.0".toList = some "github.com/buildkite-plugins/docker-buildkite-plugin#v1.0".toList := by
  rw [String.toList_ofList, String.toList_ofList]
  decide +kernel
example : fullSource "org/name#feature/x".toList = some "github.com/org/name-buildkite-plugin#feature/x".toList := by
  rw [String.toList_ofList, String.toList_ofList]
  decide +kernel
example : fullSource "git@github.com:org/repo.git#v1".toList = some "git@github.com:org/repo.git#v1".toList := by
  rw [String.toList_ofList]
  decide +kernel
example : NameOK "docker".toList := by
  rw [String.toList_ofList]
  exact ⟨by decide, by decide, by decide⟩

end GoPipeline.PluginSrc
