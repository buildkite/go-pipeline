/-
  Composition: from the YAML node graph to the round trip.
  The parse-side theorems (C03, C08, C09, C02) take a decoded document `v` with hypotheses `NoUMap v`
  (mappings are ordered maps only) and `KeysNodup v` (every mapping has distinct keys). This file shows that
  every value `ordered.DecodeYAML` returns — in the graph model of C07 — satisfies both
  (`Lemmas/EndToEnd.lean`), and restates the fixpoint (C09), signed round trip (C02) and usability (C13)
  theorems with the node graph as input.

  `ScalarStore s`: every scalar the parser decoded is a scalar (the harness supplies `decoded` from
  `yaml.Node.Decode`, which yields null / bool / int / float / string / time for scalar nodes).
-/
import GoPipeline.Lemmas.EndToEnd
import GoPipeline.Lemmas.MarshalYTotal
import GoPipeline.Lemmas.FixpointOK
import GoPipeline.Props.C02
import GoPipeline.Props.C07   -- `Yaml.exStore` (non-vacuity example at the end)
namespace GoPipeline.EndToEnd
open GoPipeline GoPipeline.Pipe GoPipeline.Parse GoPipeline.Marshal GoPipeline.Roundtrip

/-- What `DecodeYAML` returns is a tree of scalars, sequences and ordered mappings with distinct keys. -/
theorem C07_decoded_tree_shape (s : Yaml.Store) (root : Nat) (v : Val) (hs : ScalarStore s)
    (h : Yaml.decodeYAML s root = .ok v) : NoUMap v ∧ KeysNodup v :=
  decoded_tree_shape s root v hs h

/-- C09 from the node graph: decode, parse, marshal to JSON, re-read, parse — same normal form. -/
theorem C09_document_json_fixpoint (s : Yaml.Store) (root : Nat) (v : Val) (p : Pipeline) (ws : List Warn)
    (hs : ScalarStore s) (hdec : Yaml.decodeYAML s root = .ok v) (hp : parsePipeline v = .ok (p, ws))
    (hst : StablePipeline p) :
    ∃ j p' ws', mPipeline p = .ok j ∧ parsePipeline (rereadJ j) = .ok (p', ws') ∧ normPipeline p' = normPipeline p :=
  have hsh := decoded_tree_shape s root v hs hdec
  pipeline_fix SignedRT.jsonLeg v p ws hsh.1 hsh.2 hp hst.1

/-- …and through the YAML form. -/
theorem C09_document_yaml_fixpoint (s : Yaml.Store) (root : Nat) (v : Val) (p : Pipeline) (ws : List Warn)
    (hs : ScalarStore s) (hdec : Yaml.decodeYAML s root = .ok v) (hp : parsePipeline v = .ok (p, ws))
    (hst : StablePipelineY p) :
    ∃ j p' ws', MarshalY.yPipeline p = .ok j ∧ parsePipeline (rereadJ j) = .ok (p', ws') ∧ normPipeline p' = normPipeline p :=
  have hsh := decoded_tree_shape s root v hs hdec
  pipeline_fix SignedRT.yamlLeg v p ws hsh.1 hsh.2 hp hst.1

/-- C02 from the node graph: decode, parse, SignSteps, marshal, re-read, parse — every command step of the
    result carries a verifying signature. -/
theorem C02_document_signed_roundtrip (S : Signing.SigScheme) (render : S.Sig → String)
    (parseSig : String → Option S.Sig) (hrender : ∀ x, parseSig (render x) = some x)
    (s : Yaml.Store) (root : Nat) (v : Val) (p : Pipeline) (ws : List Warn)
    (hs : ScalarStore s) (hdec : Yaml.decodeYAML s root = .ok v) (hp : parsePipeline v = .ok (p, ws))
    (hst : StablePipeline p)
    (k : S.Key) (alg repo : String) (env₁ : List (String × String))
    (henv : SignedRT.EnvExtends (p.env.getD []) env₁)
    (signed : List Step) (hsign : Signing.signSteps S render k alg repo (p.env.getD []) (p.steps.getD []) = .ok signed) :
    ∃ j p' ws', mPipeline { p with steps := some signed } = .ok j ∧ parsePipeline (rereadJ j) = .ok (p', ws') ∧
      SignedRT.VerifiesAllList S parseSig (S.pubOf k) repo env₁ (p'.steps.getD []) :=
  have hsh := decoded_tree_shape s root v hs hdec
  SignedRT.C02_signed_pipeline_verifies_after_roundtrip S render parseSig hrender v p ws hsh.1 hsh.2 hp hst k alg repo
    env₁ henv signed hsign

/-- C13 from the node graph: whatever the graph decodes to, parsing is total on it and a usable result has
    a non-nil step list that marshals. -/
theorem C13_document_usable (s : Yaml.Store) (root : Nat) (v : Val) (p : Pipeline) (ws : List Warn)
    (_hdec : Yaml.decodeYAML s root = .ok v) (hp : parsePipeline v = .ok (p, ws)) :
    p.steps.isSome = true ∧ ∃ j, mPipeline p = .ok j :=
  let ⟨l, hl⟩ := steps_non_nil v p ws hp
  ⟨by rw [hl]; rfl, marshal_succeeds v p ws hp⟩

/-- C13, YAML leg: the value tree handed to `yaml.Marshal` exists for every parsed pipeline — no side condition:
    no inline key of a parsed struct collides with a declared field key (yaml.v3 panics on that), no input
    step is empty. (That the emitter can write every such tree is outside the model: finding F20.) -/
theorem C13_yaml_marshal_succeeds (v : Val) (p : Pipeline) (ws : List Warn) (hv : NoUMap v) (hd : KeysNodup v)
    (hp : parsePipeline v = .ok (p, ws)) : ∃ j, MarshalY.yPipeline p = .ok j :=
  yaml_marshal_total v p ws hv hd hp

/-- …from the node graph. -/
theorem C13_document_yaml_usable (s : Yaml.Store) (root : Nat) (v : Val) (p : Pipeline) (ws : List Warn)
    (hs : ScalarStore s) (hdec : Yaml.decodeYAML s root = .ok v) (hp : parsePipeline v = .ok (p, ws)) :
    p.steps.isSome = true ∧ (∃ j, mPipeline p = .ok j) ∧ ∃ j, MarshalY.yPipeline p = .ok j :=
  have hshape := decoded_tree_shape s root v hs hdec
  have hu := C13_document_usable s root v p ws hdec hp
  ⟨hu.1, hu.2, yaml_marshal_total v p ws hshape.1 hshape.2 hp⟩

/-! ### Non-vacuity

  `decode` is structurally recursive on its fuel, so `decodeYAML` evaluates in the kernel (`rfl`);
  `ScalarStore` is decidable (`scalarStoreB`). -/

/-- The merge/alias document of C07 (`base: &b {x: 1, y: 2}`, `m: {<<: *b, y: 3, z: 4}`). -/
example : ScalarStore Yaml.exStore := by decide
example : Yaml.decodeYAML Yaml.exStore 0 =
    .ok (.omap [("base", .omap [("x", .int 1), ("y", .int 2)]),
                ("m", .omap [("x", .int 1), ("y", .int 3), ("z", .int 4)])]) := by rfl

/-- The node graph of the document `steps: [wait]`. -/
def waitStore : Yaml.Store :=
  [ /-0 doc-/ { kind := .document, isMerge := false, content := [1] },
    /-1 top-/ { kind := .mapping, isMerge := false, content := [2, 3] },
    /-2-/ { kind := .scalar, isMerge := false, decoded := some (.str "steps"), keyStr := some "steps" },
    /-3-/ { kind := .sequence, isMerge := false, content := [4] },
    /-4-/ { kind := .scalar, isMerge := false, decoded := some (.str "wait"), keyStr := some "wait" } ]

def waitPipeline : Pipeline := { steps := some [.wait "wait" none], env := none, rem := none }

theorem waitStore_scalar : ScalarStore waitStore := by decide

theorem waitStore_decodes : Yaml.decodeYAML waitStore 0 = .ok (.omap [("steps", .seq [.str "wait"])]) := by rfl

theorem waitStore_parses : parsePipeline (.omap [("steps", .seq [.str "wait"])]) = .ok (waitPipeline, []) := by
  -- `parseStep`/`parseSteps` are compiled by well-founded recursion: evaluate through equation lemmas.
  have h1 : parseStep stepFuel (.str "wait") = .ok (.wait "wait" none, []) := by
    rw [stepFuel_succ, parseStep.eq_2]; rfl
  have hs : parseSteps stepFuel [.str "wait"] = .ok ([.wait "wait" none], []) := by
    rw [parseSteps.eq_2, h1, parseSteps.eq_1]; rfl
  unfold parsePipeline
  simp only [fieldOf_pipeline_steps]
  rw [show List.lookup "steps" [("steps", Val.seq [.str "wait"])] = some (Val.seq [.str "wait"]) from rfl]
  simp only [hs]
  rfl

theorem waitPipeline_stable : StablePipeline waitPipeline := by
  refine ⟨?_, ?_⟩
  · intro l hl
    simp only [waitPipeline, Option.some.injEq] at hl
    subst hl
    simp [StableSteps, StableStep, StableUMap, JStableKVs]
  · simp [waitPipeline, StableUMap, JStableKVs]

/-- All hypotheses of the composed fixpoint theorem hold together on a concrete node graph. -/
example : ∃ j p' ws', mPipeline waitPipeline = .ok j ∧ parsePipeline (rereadJ j) = .ok (p', ws') ∧
    normPipeline p' = normPipeline waitPipeline :=
  C09_document_json_fixpoint waitStore 0 _ waitPipeline [] waitStore_scalar waitStore_decodes waitStore_parses
    waitPipeline_stable

end GoPipeline.EndToEnd
