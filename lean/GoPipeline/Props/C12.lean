/-
  C12 (string level) — matrix interpolation replaces exactly the permutation's tokens in a single pass.
  The step-level scoping theorems (which fields are transformed) are `C12_scope_*` in `Props/C04.lean`.
-/
import GoPipeline.Lemmas.MatrixToken
import GoPipeline.Gen.MatrixRE
namespace GoPipeline.MatrixTok

/-- The regexp literal in interpolate_matrix.go is the one `matchToken` was written for. -/
theorem C12_regexp_literal :
    Gen.matrixTokenRE = "\\{\\{\\s*matrix(\\.[\\w-\\.]+)?\\s*\\}\\}" ∧ Gen.matrixRERecognised = true :=
  ⟨rfl, rfl⟩

/-- `newMatrixInterpolator` writes the keys `""` (anonymous dimension) and `"." ++ dim`. -/
theorem C12_replacement_keys : Gen.matrixReplKeys = ["\"\"", "\".\" + dim"] := rfl

/-- A well-formed token is matched as a whole, with the right submatch, whatever follows. -/
theorem C12_token_grammar (w1 d w2 rest : List Char) (ok : Seg.OK (.tok w1 d w2)) :
    matchToken (Seg.render (.tok w1 d w2) ++ rest) = some (d, rest) := token_grammar w1 d w2 rest ok

/-- A string without `{{` is unchanged (and never an error). -/
theorem C12_no_double_brace_unchanged (repl : List Char → Option (List Char)) (s : List Char)
    (h : ¬ ['{', '{'] <:+: s) : transform repl s = .ok s :=
  transform_of_nil (transformAux_no_double_brace repl s h)

/-- For every string that is an alternation of brace-free text and well-formed tokens, the output is the
    text with each token replaced by its dimension's value — inserted verbatim, never rescanned (the
    values are arbitrary, including ones that look like tokens) — and the unknown list is exactly the
    tokens whose dimension the permutation lacks, in order. -/
theorem C12_segments (repl : List Char → Option (List Char)) (segs : List Seg) (ok : ∀ s ∈ segs, s.OK) :
    transformAux repl (render segs) = (subst repl segs, unknowns repl segs) := segments repl segs ok

/-- A token naming a dimension the permutation does not have makes the call fail. -/
theorem C12_unknown_dimension_fails (repl : List Char → Option (List Char)) (segs : List Seg)
    (ok : ∀ s ∈ segs, s.OK) (w1 d w2 : List Char) (hm : Seg.tok w1 d w2 ∈ segs) (hd : repl d = none) :
    ∃ u, transform repl (render segs) = .error u ∧ d ∈ u :=
  have hmem := mem_unknowns hm hd
  ⟨_, transform_of_ne_nil (segments repl segs ok) (List.ne_nil_of_mem hmem), hmem⟩

/-- All dimensions known ⇒ success with the substituted text. -/
theorem C12_all_known_ok (repl : List Char → Option (List Char)) (segs : List Seg)
    (ok : ∀ s ∈ segs, s.OK) (hk : ∀ w1 d w2, Seg.tok w1 d w2 ∈ segs → repl d ≠ none) :
    transform repl (render segs) = .ok (subst repl segs) :=
  transform_of_nil (by rw [segments repl segs ok, unknowns_eq_nil hk])

/-- Single pass on *arbitrary* input (near-miss look-alikes included): the input splits into
    segments such that every replaced region is a genuine token and everything else is copied. -/
theorem C12_single_pass (repl : List Char → Option (List Char)) (s : List Char) :
    ∃ segs : List Seg, render segs = s ∧
      (∀ w1 d w2, Seg.tok w1 d w2 ∈ segs → Seg.OK (.tok w1 d w2)) ∧
      transformAux repl s = (subst repl segs, unknowns repl segs) :=
  let ⟨segs, hr, hok, ht⟩ := exists_segmentation s
  ⟨segs, hr, hok, ht repl⟩

/-- The failure is never silent: `transform` succeeds only if no token had an unknown dimension. -/
theorem C12_ok_iff_no_unknown (repl : List Char → Option (List Char)) (s : List Char) :
    (∃ out, transform repl s = .ok out) ↔ (transformAux repl s).2 = [] := by
  unfold transform
  rcases transformAux repl s with ⟨out, _ | ⟨u, us⟩⟩ <;> simp

/-- Core has no `DecidableEq (Except ε α)`; the examples below need one. -/
instance instDecidableEqExcept {ε α : Type} [DecidableEq ε] [DecidableEq α] :
    DecidableEq (Except ε α)
  | .ok a, .ok b => if h : a = b then isTrue (by rw [h]) else isFalse (fun e => h (by cases e; rfl))
  | .error a, .error b =>
    if h : a = b then isTrue (by rw [h]) else isFalse (fun e => h (by cases e; rfl))
  | .ok _, .error _ => isFalse (fun e => by cases e)
  | .error _, .ok _ => isFalse (fun e => by cases e)

/-! Non-vacuity.  Rewriting with `String.toList_ofList` first spares the kernel decoding the two
    literals of each statement byte by byte. -/
example : transform (replOf [("os", "{{matrix.os}}"), ("", "x")]) "a {{ matrix.os }}{{matrix}} {{matrix .os}}".toList
    = .ok "a {{matrix.os}}x {{matrix .os}}".toList := by
  rw [transform_eq_fuel, String.toList_ofList, String.toList_ofList]; decide +kernel
example : transform (replOf [("os", "linux")]) "{{matrix.arch}}".toList = .error [".arch".toList] := by
  rw [transform_eq_fuel, String.toList_ofList, String.toList_ofList]; decide +kernel
example : Seg.OK (.tok [' '] ".os".toList [' ', '\t']) :=
  ⟨by decide, .inr ⟨['o', 's'], String.toList_ofList, by decide, by decide⟩, by decide⟩

end GoPipeline.MatrixTok
