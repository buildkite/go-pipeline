/-
  C08, YAML leg — order-significant mappings keep document order through decode and `yaml.Marshal`.
  The lemmas these statements are read off from are in `GoPipeline/Lemmas/OrderY.lean` (which builds on
  `Lemmas/Order.lean` and `Lemmas/StructY.lean`).

  Sections (1), (2) (decoding) and (6) (re-reading) of `Props/C08.lean` do not depend on the output format.
  This file gives the counterparts of sections (3)–(5) for the value tree handed to `yaml.Marshal`
  (`MarshalY.yPipeline`, `yCommand`, `yStep`), and the statement that both legs hold the same values.

  Where the YAML leg differs from the JSON leg, as far as C08 is concerned:
    * an empty env block is omitted (`ordered.Map.IsZero`), the JSON leg writes `"env":{}` — so (3) carries
      the hypothesis that the block is not empty, and `C08_empty_env_block_omitted_yaml` states the rest;
    * `yaml.Marshal` can fail (an inline key equal to a declared key), so the value tree appears as a
      hypothesis `… = .ok j`; that hypothesis is never vacuous for parsed input
      (`C08_parsed_command_encodes_yaml` here, `yaml_marshal_total` in `Lemmas/MarshalYTotal.lean` for whole pipelines).
-/
import GoPipeline.Lemmas.OrderY
import GoPipeline.Lemmas.ValEq
namespace GoPipeline.Order
open GoPipeline GoPipeline.Pipe GoPipeline.Parse GoPipeline.Marshal GoPipeline.Unm GoPipeline.Roundtrip
open GoPipeline.MarshalY

/-! ### (3) the pipeline env block -/

/-- A non-empty env block is handed to `yaml.Marshal` as an ordered mapping with the typed block's keys in
    the typed block's order (the same value the JSON leg writes, `C08_env_block_marshal_order`). No condition
    on the unknown top-level keys is needed: the declared field is stored after the inline map. -/
theorem C08_env_block_marshal_order_yaml (p : Pipeline) (l : List (String × String)) (j : Val)
    (he : p.env = some l) (hne : l ≠ []) (h : yPipeline p = .ok j) :
    ∃ kvs, j = .umap kvs ∧ kvs.lookup "env" = some (.omap (l.map fun (k, v) => (k, .str v))) :=
  env_marshal_order_yaml p l j he hne h

/-- An empty env block is not written, and nothing else stands under `env`: an unknown top-level key `env`
    would have made the encoding fail, so `yPipeline p = .ok j` already excludes it. -/
theorem C08_empty_env_block_omitted_yaml (p : Pipeline) (j : Val) (he : p.env = some [])
    (h : yPipeline p = .ok j) : ∃ kvs, j = .umap kvs ∧ kvs.lookup "env" = none :=
  env_omitted_yaml p j (.inr he) h

/-- End to end on the model: a document's (non-empty) env block comes out with its keys in document order. -/
theorem C08_env_block_order_yaml (m : Entries) (kvs : List (String × Val)) (p : Pipeline) (ws : List Warn) (j : Val)
    (henv : m.lookup "env" = some (.omap kvs)) (hne : kvs ≠ [])
    (hp : parsePipeline (.omap m) = .ok (p, ws)) (hj : yPipeline p = .ok j) :
    ∃ out kvs', j = .umap out ∧ out.lookup "env" = some (.omap kvs') ∧ kvs'.map (·.1) = kvs.map (·.1) := by
  obtain ⟨l, out, hfa, h1, h2⟩ := env_scalars_become_strings_yaml m kvs p ws j henv hne hp hj
  refine ⟨out, _, h1, h2, ?_⟩
  rw [← keys_of_scalars_strings hfa, List.map_map]
  rfl

/-! ### (4) plugins -/

/-- The plugin list is written with the very value the JSON leg writes (`mPlugins`: a sequence in the order
    of the typed list, which `C08_plugins_mapping_order` ties to the mapping's key order). No condition on
    `c.rem` is needed. -/
theorem C08_plugins_order_yaml (c : CommandStep) (l : List (Option Plugin)) (j : Val)
    (hp : c.plugins = some l) (hne : l ≠ []) (h : yCommand c = .ok j) :
    ∃ kvs, j = .umap kvs ∧ kvs.lookup "plugins" = some (mPlugins l) := by
  obtain ⟨kvs, _, _, rfl, _, _, hf⟩ := yCommand_fields h
  refine ⟨kvs, rfl, ?_⟩
  rw [hf.plugins, hp, Option.getD_some, if_neg (by simpa using hne)]

/-! ### (5) mappings nested inside unknown fields and unknown steps are carried as they are -/

/-- An unknown key of a command step is handed to `yaml.Marshal` with the identical value tree — the same
    keys in the same order at every depth. -/
theorem C08_unknown_field_verbatim_yaml (m : Entries) (c : CommandStep) (j : Val) (h : parseCommand m = .ok c)
    (hj : yCommand c = .ok j) (hm : (keysOf m).Nodup) (k : String) (hk : k ∉ commandKeys) :
    ∃ kvs, j = .umap kvs ∧ kvs.lookup k = m.lookup k :=
  let ⟨kvs, h1, h2, _⟩ := command_other_keys_preserved_yaml m c j h hj hm k hk
  ⟨kvs, h1, h2⟩

/-- An unknown step is handed to `yaml.Marshal` as the identical value tree. -/
theorem C08_unknown_step_verbatim_yaml (v : Val) : yStep (.unknown v) = .ok v := rfl

/-! ### The two legs -/

/-- Every command step in the image of the parser has a YAML value tree (the hypothesis `yCommand c = .ok j`
    above is never vacuous on parsed input). -/
theorem C08_parsed_command_encodes_yaml (m : Entries) (c : CommandStep) (h : parseCommand m = .ok c) :
    ∃ j, yCommand c = .ok j := yCommand_total_of_parse m c h

/-- For a parsed command step both value trees exist and hold the identical value — the document's — under
    every key that is not a command key: the nested order is the same on both legs. -/
theorem C08_legs_same_order (m : Entries) (c : CommandStep) (h : parseCommand m = .ok c) (hm : (keysOf m).Nodup)
    (k : String) (hk : k ∉ commandKeys) :
    ∃ kj ky, mCommand c = .umap kj ∧ yCommand c = .ok (.umap ky) ∧
      kj.lookup k = ky.lookup k ∧ ky.lookup k = m.lookup k := by
  obtain ⟨kj, hj1, hj2, _⟩ := command_other_keys_preserved m c h hm k hk
  obtain ⟨ky, hy1, hy2, _⟩ := parsed_command_other_keys_yaml m c h hm k hk
  exact ⟨kj, ky, hj1, hy1, hj2.trans hy2.symm, hy2⟩

/-! Non-vacuity -/

/-- A pipeline with an order-significant env block and an unknown top-level key. -/
example : yPipeline { steps := none, env := some [("B", "1"), ("A", "x")], rem := some [("zeta", .int 1)] } =
    .ok (.umap [("env", .omap [("B", .str "1"), ("A", .str "x")]), ("steps", .seq []), ("zeta", .int 1)]) := by decide +kernel

/-- The empty env block: omitted on the YAML leg, kept on the JSON leg. -/
example : yPipeline { steps := none, env := some [], rem := none } = .ok (.umap [("steps", .seq [])]) ∧
    mPipeline { steps := none, env := some [], rem := none } = .ok (.umap [("env", .omap []), ("steps", .null)]) := by
  decide +kernel

/-- A parsed command step with a nested ordered mapping under an unknown key: both legs carry it verbatim. -/
example : ∃ c, parseCommand [("command", .str "x"), ("zz", .omap [("b", .int 1), ("a", .null)])] = .ok c ∧
    yCommand c = .ok (.umap [("command", .str "x"), ("zz", .omap [("b", .int 1), ("a", .null)])]) ∧
    mCommand c = .umap [("command", .str "x"), ("zz", .omap [("b", .int 1), ("a", .null)])] := by
  decide +kernel

/-- Plugins written as one mapping: the YAML leg writes the list in the mapping's key order. -/
example : ∃ c, parseCommand [("command", .str "x"), ("plugins", .omap [("zeta#v1", .null), ("alpha#v2", .null)])] = .ok c ∧
    ∃ kvs, yCommand c = .ok (.umap kvs) ∧
      kvs.lookup "plugins" = some (.seq [.umap [(fullSource "zeta#v1", .null)], .umap [(fullSource "alpha#v2", .null)]]) :=
  ⟨_, rfl, _, rfl, rfl⟩

/-- Outside the image of the parser the encoding can fail — an inline key named like a declared field — which
    is why `C08_plugins_order_yaml` needs no side condition on `c.rem`. -/
example : yCommand { key := "", label := "", command := "x", plugins := none, env := none, signature := none,
                     matrix := none, cache := none, rem := some [("plugins", .null)] } =
    .error (.inlineConflict "plugins") := by decide +kernel

end GoPipeline.Order
