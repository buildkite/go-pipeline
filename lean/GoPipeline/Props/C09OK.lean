/-
  C09 on structurally well-formed step trees — the marshalled normal form is a fixpoint for EVERY well-formed
  typed step tree (parsed, interpolated, or built through the Go API), JSON leg and YAML leg, model level.
  The lemmas behind the statements are in `GoPipeline/Lemmas/FixpointOK.lean`.

  `Props/C09.lean` states the fixpoint for trees that `parseStep` produced.  Here the hypotheses are predicates
  on the typed tree:

    StepOK ∧ FormOK ∧ Stable ⇒ marshal, re-read, re-parse gives the same normal form
                                  (C09_fixpoint_for_every_well_formed_tree, …_list; YAML: C09_yaml_fixpoint_…)
    the two legs re-parse to the same normal form             (C09_legs_agree_for_every_well_formed_tree)
    parser image ⊆ FormOK, warnings = unknown steps           (C09_parser_image_is_in_marshalled_form)
    FormOK is kept by env interpolation under `TreeFixed`     (C09_interpolation_keeps_marshalled_form)
    parse, interpolate, marshal, re-read, re-parse ⇒ same normal form
                                  (C09_interpolated_normal_form_is_a_fixpoint, …_yaml_fixpoint, …_clean)

  EXTRA HYPOTHESES with respect to C02 on well-formed trees (`Props/C02OK.lean`), each needed (the statement
  without it is false in the model, theorems `C09_form_needed_*`, `C09_unknown_hypothesis_needed`):

  * `FormOK s` (structural, defined and described in `Lemmas/StepOK.lean`): the tree is in the form the
    marshaller writes it.
    `StepOK` is enough for the SIGNED round trip because there only the command steps of the re-parsed tree
    matter; the fixpoint compares the whole tree, and e.g. `&WaitStep{}` (`.wait "" none`, `StepOK`) is written
    `"wait"` and comes back as `.wait "wait" none`, a different normal form.
  * A TOP-LEVEL unknown step must hold a value that the parser classifies as unknown:
      `hu : ∀ v, s = .unknown v → ∃ w, parseStep f v = .ok (.unknown v, w)`
    (`∀ v, .unknown v ∈ l → …` for lists).  For an unknown step this IS the fixpoint statement (an unknown step
    is written verbatim), so nothing weaker can do; it is vacuous for every other step, it holds in the parser's
    image (`C09_parser_image_unknown_reparses`), and it is NOT kept by interpolation (`"${X}"` ↦ `"wait"`), which
    is why `C09_interpolated_normal_form_is_a_fixpoint` carries it for the interpolated list, or asks for a warning-free parse
    (`…_clean`).

  WARNINGS.  The trees here have no parser input whose warnings could be compared (`w' = w` in
  `C09_step_roundtrip`).  What is proved instead: `w' = [] ↔ NoUnknown s` — the re-parse raises no warning
  exactly when the tree holds no unknown step; a top-level unknown step raises its own warning again.  The
  `…_known` / `…_clean` versions are the statement with `parseStep f (rereadJ j) = .ok (s', [])`.
-/
import GoPipeline.Lemmas.ValEq
import GoPipeline.Lemmas.FixpointOK
import GoPipeline.Props.C02Interp   -- the concrete tree `ExampleInterp.*`
namespace GoPipeline.Roundtrip
open GoPipeline GoPipeline.Pipe GoPipeline.Parse GoPipeline.Marshal GoPipeline.SignedRT

/-! ### The JSON leg -/

/-- For EVERY typed step tree that is structurally well-formed and in marshalled form: marshalling, re-reading
    and re-parsing with enough fuel gives a tree with the same normal form; no warning iff no unknown step. -/
theorem C09_fixpoint_for_every_well_formed_tree (s : Step) (hok : StepOK s) (hform : FormOK s)
    (hs : StableStep s) (f : Nat) (hf : stepDepth s ≤ f)
    (hu : ∀ v, s = .unknown v → ∃ w, parseStep f v = .ok (.unknown v, w)) :
    ∃ j s' w', mStep s = .ok j ∧ parseStep f (rereadJ j) = .ok (s', w') ∧ normStep s' = normStep s ∧
      (w' = [] ↔ NoUnknown s) :=
  step_fix jsonLeg s hok hform hs f hf hu

theorem C09_fixpoint_for_every_well_formed_tree_list (l : List Step) (hok : StepsOK l) (hform : FormsOK l)
    (hs : StableSteps l) (f : Nat) (hf : stepsDepth l ≤ f)
    (hu : ∀ v, Step.unknown v ∈ l → ∃ w, parseStep f v = .ok (.unknown v, w)) :
    ∃ js ss' ws', mSteps l = .ok js ∧ parseSteps f (rereadJList js) = .ok (ss', ws') ∧
      normSteps ss' = normSteps l ∧ (ws' = [] ↔ NoUnknownList l) :=
  steps_fix jsonLeg l hok hform hs f hf hu

/-- Without unknown steps: no hypothesis about the parser at all, and the re-parse raises no warning. -/
theorem C09_fixpoint_for_every_well_formed_tree_known (s : Step) (hok : StepOK s) (hform : FormOK s)
    (hs : StableStep s) (f : Nat) (hf : stepDepth s ≤ f) (hnu : NoUnknown s) :
    ∃ j s', mStep s = .ok j ∧ parseStep f (rereadJ j) = .ok (s', []) ∧ normStep s' = normStep s :=
  fix_all jsonLeg f s hok hform hs hf hnu

theorem C09_fixpoint_for_every_well_formed_tree_list_known (l : List Step) (hok : StepsOK l)
    (hform : FormsOK l) (hs : StableSteps l) (f : Nat) (hf : stepsDepth l ≤ f) (hnu : NoUnknownList l) :
    ∃ js ss', mSteps l = .ok js ∧ parseSteps f (rereadJList js) = .ok (ss', []) ∧ normSteps ss' = normSteps l :=
  fix_list_of jsonLeg f (fix_all jsonLeg f) l hok hform hs hf hnu

/-! ### The YAML leg -/

/-- The same on the YAML leg: every such tree can be written as YAML (no inline key collides with a declared
    field), and the re-parse has the same normal form.  `StableStepY` asks less than `StableStep` (F11 is a
    JSON-only loss). -/
theorem C09_yaml_fixpoint_for_every_well_formed_tree (s : Step) (hok : StepOK s) (hform : FormOK s)
    (hs : StableStepY s) (f : Nat) (hf : stepDepth s ≤ f)
    (hu : ∀ v, s = .unknown v → ∃ w, parseStep f v = .ok (.unknown v, w)) :
    ∃ j s' w', MarshalY.yStep s = .ok j ∧ parseStep f (rereadJ j) = .ok (s', w') ∧ normStep s' = normStep s ∧
      (w' = [] ↔ NoUnknown s) :=
  step_fix yamlLeg s hok hform hs f hf hu

theorem C09_yaml_fixpoint_for_every_well_formed_tree_list (l : List Step) (hok : StepsOK l)
    (hform : FormsOK l) (hs : StableStepsY l) (f : Nat) (hf : stepsDepth l ≤ f)
    (hu : ∀ v, Step.unknown v ∈ l → ∃ w, parseStep f v = .ok (.unknown v, w)) :
    ∃ js ss' ws', MarshalY.ySteps l = .ok js ∧ parseSteps f (rereadJList js) = .ok (ss', ws') ∧
      normSteps ss' = normSteps l ∧ (ws' = [] ↔ NoUnknownList l) :=
  steps_fix yamlLeg l hok hform hs f hf hu

theorem C09_yaml_fixpoint_for_every_well_formed_tree_known (s : Step) (hok : StepOK s) (hform : FormOK s)
    (hs : StableStepY s) (f : Nat) (hf : stepDepth s ≤ f) (hnu : NoUnknown s) :
    ∃ j s', MarshalY.yStep s = .ok j ∧ parseStep f (rereadJ j) = .ok (s', []) ∧ normStep s' = normStep s :=
  fix_all yamlLeg f s hok hform hs hf hnu

theorem C09_yaml_fixpoint_for_every_well_formed_tree_list_known (l : List Step) (hok : StepsOK l)
    (hform : FormsOK l) (hs : StableStepsY l) (f : Nat) (hf : stepsDepth l ≤ f) (hnu : NoUnknownList l) :
    ∃ js ss', MarshalY.ySteps l = .ok js ∧ parseSteps f (rereadJList js) = .ok (ss', []) ∧
      normSteps ss' = normSteps l :=
  fix_list_of yamlLeg f (fix_all yamlLeg f) l hok hform hs hf hnu

/-! ### The two legs agree -/

/-- Both output formats of a well-formed tree re-parse to trees with the same normal form, with the same
    warnings (the JSON side conditions imply the YAML ones). -/
theorem C09_legs_agree_for_every_well_formed_tree (s : Step) (hok : StepOK s) (hform : FormOK s)
    (hs : StableStep s) (f : Nat) (hf : stepDepth s ≤ f)
    (hu : ∀ v, s = .unknown v → ∃ w, parseStep f v = .ok (.unknown v, w)) :
    ∃ jJ jY sJ sY wJ wY, mStep s = .ok jJ ∧ MarshalY.yStep s = .ok jY ∧
      parseStep f (rereadJ jJ) = .ok (sJ, wJ) ∧ parseStep f (rereadJ jY) = .ok (sY, wY) ∧
      normStep sJ = normStep sY ∧ wJ = wY := by
  obtain ⟨jJ, sJ, wJ, h1, h2, h3, h4⟩ := step_fix jsonLeg s hok hform hs f hf hu
  obtain ⟨jY, sY, wY, g1, g2, g3, g4⟩ := step_fix yamlLeg s hok hform (stableStepY_of s hs) f hf hu
  refine ⟨jJ, jY, sJ, sY, wJ, wY, h1, g1, h2, g2, h3.trans g3.symm, ?_⟩
  -- an unknown step is written verbatim on both legs; otherwise neither re-parse raises a warning
  by_cases hnu : NoUnknown s
  · rw [h4.2 hnu, g4.2 hnu]
  · cases s with
    | unknown v =>
      cases h1
      cases g1
      rw [h2] at g2
      cases g2
      rfl
    | _ => exact absurd (noUnknown_of_formOK hform (fun _ e => nomatch e)) hnu

theorem C09_legs_agree_for_every_well_formed_tree_list (l : List Step) (hok : StepsOK l) (hform : FormsOK l)
    (hs : StableSteps l) (f : Nat) (hf : stepsDepth l ≤ f)
    (hu : ∀ v, Step.unknown v ∈ l → ∃ w, parseStep f v = .ok (.unknown v, w)) :
    ∃ jsJ jsY ssJ ssY wsJ wsY, mSteps l = .ok jsJ ∧ MarshalY.ySteps l = .ok jsY ∧
      parseSteps f (rereadJList jsJ) = .ok (ssJ, wsJ) ∧ parseSteps f (rereadJList jsY) = .ok (ssY, wsY) ∧
      normSteps ssJ = normSteps ssY := by
  obtain ⟨jsJ, ssJ, wsJ, h1, h2, h3, _⟩ := steps_fix jsonLeg l hok hform hs f hf hu
  obtain ⟨jsY, ssY, wsY, g1, g2, g3, _⟩ := steps_fix yamlLeg l hok hform (stableStepsY_of l hs) f hf hu
  exact ⟨jsJ, jsY, ssJ, ssY, wsJ, wsY, h1, g1, h2, g2, h3.trans g3.symm⟩

/-! ### Where the extra hypotheses come from -/

/-- The parser's image is in marshalled form; the parse raised no warning exactly when the step holds no
    unknown step; an unknown step holds the parsed value itself. -/
theorem C09_parser_image_is_in_marshalled_form (f : Nat) (x : Val) (s : Step) (w : List Warn) (hx : NoUMap x)
    (h : parseStep f x = .ok (s, w)) :
    FormOK s ∧ (w = [] ↔ NoUnknown s) ∧ ∀ v, s = .unknown v → v = x :=
  parse_formOK.1 f x s w h hx

theorem C09_parser_image_is_in_marshalled_form_list (f : Nat) (xs : List Val) (ss : List Step)
    (ws : List Warn) (hx : NoUMapList xs) (h : parseSteps f xs = .ok (ss, ws)) :
    FormsOK ss ∧ (ws = [] ↔ NoUnknownList ss) :=
  parse_formOK.2 f xs ss ws h hx

/-- The hypothesis on top-level unknown steps holds in the parser's image. -/
theorem C09_parser_image_unknown_reparses (f : Nat) (x : Val) (s : Step) (w : List Warn) (hx : NoUMap x)
    (h : parseStep f x = .ok (s, w)) : ∀ v, s = .unknown v → ∃ w', parseStep f v = .ok (.unknown v, w') := by
  intro v hv
  have := (parse_formOK.1 f x s w h hx).2.2 v hv
  subst this
  subst hv
  exact ⟨w, h⟩

/-- Env interpolation with a `TreeFixed` transformer keeps a well-formed tree in marshalled form ... -/
theorem C09_interpolation_keeps_marshalled_form {E : Type} (tf : String → Except E String) (s s₁ : Step)
    (hok : StepOK s) (hform : FormOK s) (h : Interp.interpStep .env tf s = .ok s₁) (hfix : TreeFixed tf s) :
    FormOK s₁ :=
  (interp_formOK tf).1 s s₁ h hok hform hfix

theorem C09_interpolation_keeps_marshalled_form_list {E : Type} (tf : String → Except E String)
    (l l₁ : List Step) (hok : StepsOK l) (hform : FormsOK l) (h : Interp.interpSteps .env tf l = .ok l₁)
    (hfix : TreesFixed tf l) : FormsOK l₁ :=
  (interp_formOK tf).2 l l₁ h hok hform hfix

/-- ... and no interpolation (env or matrix, any transformer) creates an unknown step. -/
theorem C09_interpolation_creates_no_unknown_step {E : Type} (kind : Interp.TfKind)
    (tf : String → Except E String) (s s₁ : Step) (h : Interp.interpStep kind tf s = .ok s₁)
    (hnu : NoUnknown s) : NoUnknown s₁ :=
  (interp_noUnknown kind tf).1 s s₁ h hnu

/-! ### Parse, interpolate, marshal, re-read, re-parse -/

/-- The interpolated pipeline's normal form is a fixpoint too: steps parsed from a decoded document,
    interpolated with a transformer that is `TreesFixed` for them, marshalled, re-read and re-parsed with the
    same fuel give the same normal form.  `hu`: the top-level unknown steps of the INTERPOLATED list still hold
    values the parser classifies as unknown (needed: `C09_unknown_hypothesis_needed`). -/
theorem C09_interpolated_normal_form_is_a_fixpoint {E : Type} (f : Nat) (xs : List Val) (l l₁ : List Step)
    (ws : List Warn) (hx : NoUMapList xs) (hd : KeysNodupList xs) (h : parseSteps f xs = .ok (l, ws))
    (tf : String → Except E String) (hi : Interp.interpSteps .env tf l = .ok l₁) (hfix : TreesFixed tf l)
    (hs : StableSteps l₁)
    (hu : ∀ v, Step.unknown v ∈ l₁ → ∃ w, parseStep f v = .ok (.unknown v, w)) :
    ∃ js ss' ws', mSteps l₁ = .ok js ∧ parseSteps f (rereadJList js) = .ok (ss', ws') ∧
      normSteps ss' = normSteps l₁ ∧ (ws' = [] ↔ NoUnknownList l₁) :=
  interp_then_fix jsonLeg f xs l l₁ ws hx hd h tf hi hfix hs hu

theorem C09_interpolated_normal_form_is_a_yaml_fixpoint {E : Type} (f : Nat) (xs : List Val)
    (l l₁ : List Step) (ws : List Warn) (hx : NoUMapList xs) (hd : KeysNodupList xs)
    (h : parseSteps f xs = .ok (l, ws))
    (tf : String → Except E String) (hi : Interp.interpSteps .env tf l = .ok l₁) (hfix : TreesFixed tf l)
    (hs : StableStepsY l₁)
    (hu : ∀ v, Step.unknown v ∈ l₁ → ∃ w, parseStep f v = .ok (.unknown v, w)) :
    ∃ js ss' ws', MarshalY.ySteps l₁ = .ok js ∧ parseSteps f (rereadJList js) = .ok (ss', ws') ∧
      normSteps ss' = normSteps l₁ ∧ (ws' = [] ↔ NoUnknownList l₁) :=
  interp_then_fix yamlLeg f xs l l₁ ws hx hd h tf hi hfix hs hu

/-- For a document that parsed WITHOUT WARNINGS nothing is asked about unknown steps (there are none, before
    and after interpolation), and the re-parse raises no warning either. -/
theorem C09_interpolated_normal_form_is_a_fixpoint_clean {E : Type} (f : Nat) (xs : List Val)
    (l l₁ : List Step) (hx : NoUMapList xs) (hd : KeysNodupList xs) (h : parseSteps f xs = .ok (l, []))
    (tf : String → Except E String) (hi : Interp.interpSteps .env tf l = .ok l₁) (hfix : TreesFixed tf l)
    (hs : StableSteps l₁) :
    ∃ js ss', mSteps l₁ = .ok js ∧ parseSteps f (rereadJList js) = .ok (ss', []) ∧
      normSteps ss' = normSteps l₁ :=
  interp_then_fix_clean jsonLeg f xs l l₁ hx hd h tf hi hfix hs

theorem C09_interpolated_normal_form_is_a_yaml_fixpoint_clean {E : Type} (f : Nat) (xs : List Val)
    (l l₁ : List Step) (hx : NoUMapList xs) (hd : KeysNodupList xs) (h : parseSteps f xs = .ok (l, []))
    (tf : String → Except E String) (hi : Interp.interpSteps .env tf l = .ok l₁) (hfix : TreesFixed tf l)
    (hs : StableStepsY l₁) :
    ∃ js ss', MarshalY.ySteps l₁ = .ok js ∧ parseSteps f (rereadJList js) = .ok (ss', []) ∧
      normSteps ss' = normSteps l₁ :=
  interp_then_fix_clean yamlLeg f xs l l₁ hx hd h tf hi hfix hs

/-! ### The extra hypotheses cannot be dropped

  Each tree below is `StepOK` and `StableStep`; the theorem gives the marshalled value, its re-parse (for every
  fuel that covers the tree) and the fact that the normal forms differ. -/

theorem selectScalar_wait : StepKind.selectScalar Gen.scalarTable "wait" = .known .wait := by decide +kernel

theorem parse_scalar_wait (f : Nat) : parseStep (f + 1) (rereadJ (.str "wait")) = .ok (.wait "wait" none, []) := by
  rw [rereadJ_str, parseStep.eq_2, selectScalar_wait]

/-- `&WaitStep{}`: written `"wait"`, re-parsed with that scalar (the scalar is part of the normal form). -/
theorem C09_form_needed_empty_wait :
    let s : Step := .wait "" none
    StepOK s ∧ StableStep s ∧ ¬ FormOK s ∧ mStep s = .ok (.str "wait") ∧ MarshalY.yStep s = .ok (.str "wait") ∧
      (∀ f, parseStep (f + 1) (rereadJ (.str "wait")) = .ok (.wait "wait" none, [])) ∧
      normStep (.wait "wait" none) ≠ normStep s := by
  intro s
  refine ⟨stepOK_wait_empty, by trivial, by simp [s, FormOK], by rfl, by rfl,
    parse_scalar_wait, by simp [s, normStep]⟩

/-- A scalar AND contents: written as the scalar, the contents are lost. -/
theorem C09_form_needed_scalar_with_contents :
    let s : Step := .wait "wait" (some [("a", .null)])
    StepOK s ∧ StableStep s ∧ ¬ FormOK s ∧ mStep s = .ok (.str "wait") ∧ MarshalY.yStep s = .ok (.str "wait") ∧
      (∀ f, parseStep (f + 1) (rereadJ (.str "wait")) = .ok (.wait "wait" none, [])) ∧
      normStep (.wait "wait" none) ≠ normStep s := by
  intro s
  refine ⟨?_, by trivial, by simp [s, FormOK], by rfl, by rfl,
    parse_scalar_wait, by simp [s, normStep, normList]⟩
  simp only [s, StepOK]
  rw [if_neg (by decide)]
  exact selectScalar_wait

/-- An unsorted list as the representation of the contents Go map (no real Go map marshals in this order). -/
theorem C09_form_needed_sorted_contents :
    let s : Step := .wait "" (some [("wait", .null), ("a", .null)])
    let j : Val := .umap [("wait", .null), ("a", .null)]
    let s' : Step := .wait "" (some [("a", .null), ("wait", .null)])
    StepOK s ∧ StableStep s ∧ ¬ FormOK s ∧ mStep s = .ok j ∧ MarshalY.yStep s = .ok j ∧
      (∀ f, parseStep (f + 1) (rereadJ j) = .ok (s', [])) ∧ normStep s' ≠ normStep s := by
  intro s j s'
  have hsel : selOf [("wait", Val.null), ("a", .null)] = .ok (.known .wait) := eq_ok_of_decide (by decide +kernel)
  refine ⟨?_, by trivial, ?_, by rfl, by rfl, fun f => ?_,
    by simp [s, s', normStep, normList]⟩
  · simp only [s, StepOK, if_pos, Option.getD_some]
    exact .inr hsel
  · simp only [s, FormOK, if_pos, ContentsOK, Option.getD_some, SortedK]
    intro h
    have := h.1.1
    simp at this
  · have hr : rereadJ j = .omap [("wait", .null), ("a", .null)] := by simp [j, rereadJ, rereadJKVs]
    rw [hr, parseStep.eq_3, hsel]
    rfl

/-- A Go map inside the contents comes back as an ordered mapping. -/
theorem C09_form_needed_decoded_contents :
    let s : Step := .trigger (some [("trigger", .umap [])])
    let j : Val := .umap [("trigger", .umap [])]
    let s' : Step := .trigger (some [("trigger", .omap [])])
    StepOK s ∧ StableStep s ∧ ¬ FormOK s ∧ mStep s = .ok j ∧ MarshalY.yStep s = .ok j ∧
      (∀ f, parseStep (f + 1) (rereadJ j) = .ok (s', [])) ∧ normStep s' ≠ normStep s := by
  intro s j s'
  have hsel : selOf [("trigger", Val.umap [])] = .ok (.known .trigger) := eq_ok_of_decide (by decide +kernel)
  have hsel' : selOf [("trigger", Val.omap [])] = .ok (.known .trigger) := eq_ok_of_decide (by decide +kernel)
  refine ⟨?_, by trivial, ?_, by rfl, by rfl, fun f => ?_,
    by simp [s, s', normStep, normList]⟩
  · simp only [s, StepOK, Option.getD_some]
    exact hsel
  · simp [s, FormOK, ContentsOK, NoUMap]
  · have hr : rereadJ j = .omap [("trigger", .omap [])] := by simp [j, rereadJ, rereadJKVs]
    rw [hr, parseStep.eq_3, hsel']
    rfl

/-- An unknown step inside a group: the nested warning is refused, the whole group falls back to an unknown
    step. -/
theorem C09_form_needed_no_unknown_in_group :
    let s : Step := .group "" none (some [.unknown (.str "foo")]) none
    let j : Val := .umap [("group", .null), ("steps", .seq [.str "foo"])]
    let m : Unm.Entries := [("group", .null), ("steps", .seq [.str "foo"])]
    StepOK s ∧ StableStep s ∧ FormsOK [.unknown (.str "foo")] ∧ ¬ FormOK s ∧ mStep s = .ok j ∧
      MarshalY.yStep s = .ok j ∧
      (∀ f, parseStep (f + 2) (rereadJ j) = .ok (.unknown (.omap m), [.fellBack])) ∧
      normStep (.unknown (.omap m)) ≠ normStep s := by
  intro s j m
  have hsel : selOf m = .ok (.known .group) := eq_ok_of_decide (by decide +kernel)
  have hms : mSteps [.unknown (.str "foo")] = .ok [.str "foo"] := by
    rw [mSteps_cons, mStep_unknown, mSteps_nil]
  have hys : MarshalY.ySteps [.unknown (.str "foo")] = .ok [.str "foo"] := by
    rw [ySteps_cons, yStep_unknown]; rfl
  refine ⟨?_, ?_, by simp [FormsOK, FormOK], ?_, ?_, ?_, fun f => ?_, by simp [s, normStep]⟩
  · simp only [s]
    rw [stepOK_group_some]
    exact ⟨remOK_none _, eq_ok_of_decide (by decide +kernel), by simp [StepsOK, StepOK, NoUMap]⟩
  · trivial
  · simp only [s]
    rw [formOK_group_some]
    simp [NoUnknownList, NoUnknown]
  · simp only [s]
    rw [mStep_group_eq "" none _ none _ hms]
    decide +kernel
  · simp only [s]
    rw [yStep_group_eq "" none _ none _ (remOK_none _) hys]
    decide +kernel
  · have hr : rereadJ j = .omap m := by decide +kernel
    have hp : parseSteps (f + 1) [.str "foo"] = .ok ([.unknown (.str "foo")], [.unknownType]) := by
      rw [parseSteps.eq_2, parseStep.eq_2]
      have : StepKind.selectScalar Gen.scalarTable "foo" = .unknownType := by decide +kernel
      rw [this]
      simp only
      rw [parseSteps.eq_1]
      rfl
    have hg : parseGroup (f + 1) m = .error .wrapped := by
      rw [parseGroup.eq_1, fieldOf_group_steps]
      have hlk : List.lookup "steps" m = some (.seq [.str "foo"]) := by decide +kernel
      rw [hlk]
      simp only
      rw [hp]
      rfl
    rw [hr, parseStep.eq_3, hsel]
    simp only
    rw [hg]

/-- A top-level unknown step built through the API may hold anything: `null` is refused by the re-parse (a
    hard error), `"wait"` comes back as a wait step. -/
theorem C09_unknown_hypothesis_needed_api :
    (StepOK (.unknown .null) ∧ StableStep (.unknown .null) ∧ mStep (.unknown .null) = .ok .null ∧
      ∀ f, parseStep (f + 1) (rereadJ .null) = .error .badStepEntry) ∧
    (StepOK (.unknown (.str "wait")) ∧ StableStep (.unknown (.str "wait")) ∧
      mStep (.unknown (.str "wait")) = .ok (.str "wait") ∧
      (∀ f, parseStep (f + 1) (rereadJ (.str "wait")) = .ok (.wait "wait" none, [])) ∧
      normStep (.wait "wait" none) ≠ normStep (.unknown (.str "wait"))) := by
  refine ⟨⟨by simp [StepOK, NoUMap], by trivial, rfl, fun f => ?_⟩,
    ⟨by simp [StepOK, NoUMap], by trivial, rfl, parse_scalar_wait, by simp [normStep]⟩⟩
  have : rereadJ .null = .null := by simp [rereadJ]
  rw [this, parseStep.eq_4 _ _ (by intro s h; cases h) (by intro m h; cases h)]

/-- `C09_interpolated_normal_form_is_a_fixpoint` without `hu`: the document `["${X}"]` parses (one warning) to an unknown step, every transformer is
    `TreesFixed` for it, interpolation rewrites it to `"wait"`, which re-parses as a wait step. -/
theorem C09_unknown_hypothesis_needed :
    let tf : String → Except Unit String := fun s => .ok (if s = "${X}" then "wait" else s)
    let xs : List Val := [.str "${X}"]
    let l : List Step := [.unknown (.str "${X}")]
    let l₁ : List Step := [.unknown (.str "wait")]
    NoUMapList xs ∧ KeysNodupList xs ∧ parseSteps 1 xs = .ok (l, [.unknownType]) ∧
      Interp.interpSteps .env tf l = .ok l₁ ∧ TreesFixed tf l ∧ StableSteps l₁ ∧
      mSteps l₁ = .ok [.str "wait"] ∧ MarshalY.ySteps l₁ = .ok [.str "wait"] ∧
      parseSteps 1 (rereadJList [.str "wait"]) = .ok ([.wait "wait" none], []) ∧
      normSteps [.wait "wait" none] ≠ normSteps l₁ := by
  intro tf xs l l₁
  refine ⟨by simp [xs, NoUMapList, NoUMap], by simp [xs, KeysNodupList, KeysNodup], ?_, by rfl,
    by simp [l, TreesFixed, TreeFixed], by trivial, ?_, ?_, ?_,
    by simp [l₁, normSteps, normStep]⟩
  · simp only [xs]
    rw [parseSteps.eq_2, parseStep.eq_2]
    have : StepKind.selectScalar Gen.scalarTable "${X}" = .unknownType := by decide +kernel
    rw [this]
    simp only
    rw [parseSteps.eq_1]
    rfl
  · simp only [l₁]
    rw [mSteps_cons, mStep_unknown, mSteps_nil]
  · simp only [l₁]
    rw [ySteps_cons, yStep_unknown]; rfl
  · rw [rereadJList, rereadJList, parseSteps.eq_2, parse_scalar_wait 0]
    simp only
    rw [parseSteps.eq_1]
    rfl

/-! ### Non-vacuity -/

section NonVacuity
open GoPipeline.SignedRT.Example GoPipeline.SignedRT.ExampleOK GoPipeline.SignedRT.ExampleInterp

/-- All hypotheses of `C09_interpolated_normal_form_is_a_fixpoint` are jointly satisfiable on the tree of `Props/C02Interp.lean` (a group holding a
    command step with plugins / env / matrix / cache and a mapping-form wait step, then a scalar wait step),
    with a transformer that really rewrites strings; the list has no unknown step, so `hu` is vacuous and the
    re-parse raises no warning. -/
example : ∃ js ss', mSteps l1Ex = .ok js ∧ parseSteps 2 (rereadJList js) = .ok (ss', []) ∧
    normSteps ss' = normSteps l1Ex := by
  obtain ⟨js, ss', ws', h1, h2, h3, h4⟩ := C09_interpolated_normal_form_is_a_fixpoint 2 xsEx lEx l1Ex []
    noUMap_xsEx keysNodup_xsEx parse_xsEx tfEx interp_lEx treesFixed_ex stable_l1Ex
    (by intro v hv; simp [l1Ex] at hv)
  have hnu : NoUnknownList l1Ex := by simp [l1Ex, NoUnknownList, NoUnknown, wait1Ex]
  rw [h4.2 hnu] at h2
  exact ⟨js, ss', h1, h2, h3⟩

/-- The same through the warning-free version, and on the YAML leg. -/
example : ∃ js ss', mSteps l1Ex = .ok js ∧ parseSteps 2 (rereadJList js) = .ok (ss', []) ∧
    normSteps ss' = normSteps l1Ex :=
  C09_interpolated_normal_form_is_a_fixpoint_clean 2 xsEx lEx l1Ex noUMap_xsEx keysNodup_xsEx parse_xsEx tfEx
    interp_lEx treesFixed_ex stable_l1Ex

example : ∃ js ss', MarshalY.ySteps l1Ex = .ok js ∧ parseSteps 2 (rereadJList js) = .ok (ss', []) ∧
    normSteps ss' = normSteps l1Ex :=
  C09_interpolated_normal_form_is_a_yaml_fixpoint_clean 2 xsEx lEx l1Ex noUMap_xsEx keysNodup_xsEx parse_xsEx tfEx
    interp_lEx treesFixed_ex (stableStepsY_of _ stable_l1Ex)

/-- The interpolated tree is well-formed, in marshalled form, of depth 2: the hypotheses of the fixpoint theorems
    of both legs hold for it. -/
example : StepsOK l1Ex ∧ FormsOK l1Ex ∧ stepsDepth l1Ex ≤ 2 ∧ NoUnknownList l1Ex := by
  obtain ⟨h1, h2, h3, h4⟩ := parse_then_interp_form 2 xsEx lEx l1Ex [] noUMap_xsEx keysNodup_xsEx parse_xsEx tfEx
    interp_lEx treesFixed_ex
  exact ⟨h1, h2, h3, h4 rfl⟩

/-- `hu` is satisfiable by a genuine unknown step, and then the re-parse does raise the warning again. -/
example : ∃ j s' w', mStep (.unknown (.str "deploy")) = .ok j ∧ parseStep 1 (rereadJ j) = .ok (s', w') ∧
    normStep s' = normStep (.unknown (.str "deploy")) ∧ w' ≠ [] := by
  have hp : parseStep 1 (.str "deploy") = .ok (.unknown (.str "deploy"), [.unknownType]) := by
    rw [parseStep.eq_2]
    have : StepKind.selectScalar Gen.scalarTable "deploy" = .unknownType := by decide +kernel
    rw [this]
  obtain ⟨j, s', w', h1, h2, h3, h4⟩ := C09_fixpoint_for_every_well_formed_tree (.unknown (.str "deploy"))
    (by simp [StepOK, NoUMap]) (by simp [FormOK]) (by simp [StableStep, JStable]) 1 (by simp [stepDepth])
    (fun v hv => by cases hv; exact ⟨_, hp⟩)
  exact ⟨j, s', w', h1, h2, h3, fun hw => noUnknown_unknown _ (h4.1 hw)⟩

end NonVacuity

end GoPipeline.Roundtrip
