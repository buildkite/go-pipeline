/-
  C15 — step kinds are chosen by the documented rule table.
  Theorems are about the tables regenerated from steps.go / step_scalar.go (`Gen/StepKinds`).
-/
import GoPipeline.Lemmas.StepKind
namespace GoPipeline.StepKind
open GoPipeline.Gen

/-- The translator recognised the shape of `stepByType`, `stepByKeyInference` and `NewScalarStep`. -/
theorem C15_tables_recognised : stepKindsRecognised = true := by decide

/-- The sentinels carried by the two fallbacks are the documented ones. -/
theorem C15_sentinels :
    typeSentinel = "ErrUnknownStepType" ∧ inferSentinel = "ErrStepTypeInference" ∧
    scalarSentinel = "ErrUnknownStepType" := ⟨rfl, rfl, rfl⟩

/-- `type` present: the kind is the documented function of the type string, for every string. -/
theorem C15_type_rule (s : String) (has : String → Bool) :
    select typeTable inferTable has (.str s) = specType s := by
  simp only [select, typeTable, byString_cons, byString_nil, specType, List.mem_cons, List.not_mem_nil, or_false]
  -- both sides test the same conditions in the same order
  by_cases h1 : s = "command" ∨ s = "script"
  · rw [if_pos h1, if_pos h1]
  rw [if_neg h1, if_neg h1]
  by_cases h2 : s = "wait" ∨ s = "waiter"
  · rw [if_pos h2, if_pos h2]
  rw [if_neg h2, if_neg h2]
  by_cases h3 : s = "block" ∨ s = "input" ∨ s = "manual"
  · rw [if_pos h3, if_pos h3]
  rw [if_neg h3, if_neg h3]
  by_cases h4 : s = "trigger"
  · rw [if_pos h4, if_pos h4]
  rw [if_neg h4, if_neg h4]
  by_cases h5 : s = "group"
  · rw [if_pos h5, if_pos h5]
  rw [if_neg h5, if_neg h5]

/-- `type` absent: first matching key family in the documented order, for every key set. -/
theorem C15_inference_rule (has : String → Bool) :
    select typeTable inferTable has .absent = specInfer has :=
  inference_rule has

/-- The whole selection equals the documented rule for all key sets and all `type` values. -/
theorem C15_select_eq_spec (has : String → Bool) (t : TypeVal) :
    select typeTable inferTable has t = specSelect has t := by
  cases t with
  | absent => exact C15_inference_rule has
  | str s => exact C15_type_rule s has
  | nonString => rfl

/-- Scalar steps, for every string. -/
theorem C15_scalar_rule (s : String) : selectScalar scalarTable s = specScalar s := by
  simp only [selectScalar, scalarTable, byString_cons, byString_nil, specScalar, List.mem_cons, List.not_mem_nil, or_false]
  by_cases h2 : s = "wait" ∨ s = "waiter"
  · rw [if_pos h2, if_pos h2]
  rw [if_neg h2, if_neg h2]
  by_cases h3 : s = "block" ∨ s = "input" ∨ s = "manual"
  · rw [if_pos h3, if_pos h3]
  rw [if_neg h3, if_neg h3]

/-- A `type` string outside the nine documented ones never yields a known kind, whatever keys are present. -/
theorem C15_unknown_type_never_known (s : String) (has : String → Bool)
    (h : s ∉ ["command", "script", "wait", "waiter", "block", "input", "manual", "trigger", "group"]) :
    select typeTable inferTable has (.str s) = .unknownType := by
  rw [C15_type_rule]
  simp only [List.mem_cons, List.not_mem_nil, or_false, not_or] at h
  simp [specType, h]

/-- Inference fails exactly when none of the ten kind keys is present. -/
theorem C15_infer_fail_iff (has : String → Bool) :
    select typeTable inferTable has .absent = .inferFail ↔ ∀ k ∈ kindKeys, has k = false := by
  rw [select_absent_eq_inferFail, byKeys_eq_none_iff, inferTable_keys]

/-- Additional keys never change the decision: selection reads `has` only at the ten kind keys. -/
theorem C15_extra_keys_irrelevant (has has' : String → Bool) (t : TypeVal)
    (h : ∀ k ∈ kindKeys, has k = has' k) :
    select typeTable inferTable has t = select typeTable inferTable has' t := by
  cases t with
  | nonString => rfl
  | str s => rfl
  | absent => simp only [select, byKeys_congr inferTable has has' (inferTable_keys ▸ h)]

/-- Adding one key outside the ten kind keys (and outside `type`, which is the `TypeVal` argument)
    leaves the decision unchanged. -/
theorem C15_add_extra_key (has : String → Bool) (t : TypeVal) (extra : String) (hx : extra ∉ kindKeys) :
    select typeTable inferTable (fun k => has k || k == extra) t = select typeTable inferTable has t := by
  apply C15_extra_keys_irrelevant
  intro k hk
  have : (k == extra) = false := by
    simp only [beq_eq_false_iff_ne, ne_eq]
    intro h; subst h; exact hx hk
  simp [this]

/-! Non-vacuity -/
example : select typeTable inferTable (fun k => k == "wait" || k == "command") .absent = .known .command := by decide +kernel
example : select typeTable inferTable (fun _ => true) (.str "waiter") = .known .wait := by decide +kernel
example : "deploy" ∉ ["command", "script", "wait", "waiter", "block", "input", "manual", "trigger", "group"] := by decide +kernel

end GoPipeline.StepKind
