/-
  C08 — lemmas behind `Props/C08.lean`: order-significant mappings keep document order. The merge walk only
  ever appends to what it has yielded; the pipeline `env` block keeps the document's keys through the typed layer
  and the marshaller; an ordered tree survives encode-then-decode.
-/
import GoPipeline.Lemmas.Yaml
import GoPipeline.Lemmas.Parse03
import GoPipeline.Model.Roundtrip
namespace GoPipeline.Order
open GoPipeline GoPipeline.Pipe GoPipeline.Parse GoPipeline.Marshal GoPipeline.Unm GoPipeline.Roundtrip

/-! ## The merge walk -/

/-- Without merge keys `specPairs` appends exactly one pair per written pair, with the written value node. -/
theorem specPairs_plain (s : Yaml.Store) : ∀ (ps : List (Nat × Nat)) (f : Nat) (have_ : List String)
    (out : List (String × Nat)) (r : List String × List (String × Nat)),
    (∀ p ∈ ps, ∀ kn, s[p.1]? = some kn → kn.isMerge = false) →
    Yaml.specPairs s f have_ out ps = .ok r → r.2.map (·.2) = out.map (·.2) ++ ps.map (·.2) := by
  intro ps
  induction ps with
  | nil =>
    intro f have_ out r _ h
    cases f with
    | zero => simp [Yaml.specPairs] at h
    | succ f =>
      simp only [Yaml.specPairs, Except.ok.injEq] at h
      subst h
      simp
  | cons p rest ih =>
    obtain ⟨k, v⟩ := p
    intro f have_ out r hp h
    cases f with
    | zero => simp [Yaml.specPairs] at h
    | succ f =>
      simp only [Yaml.specPairs] at h
      cases hs : s[k]? with
      | none => simp [hs] at h
      | some kn =>
        have hm : kn.isMerge = false := hp (k, v) List.mem_cons_self kn hs
        simp only [hs, hm, Bool.false_eq_true, ↓reduceIte] at h
        cases hck : Yaml.canonicalKey s (f + 1) k with
        | error e => simp [hck] at h
        | ok ck =>
          simp only [hck] at h
          rw [ih f have_ _ r (fun q hq => hp q (List.mem_cons_of_mem _ hq)) h]
          simp

theorem specMergeAll_appends (s : Yaml.Store) : ∀ (srcs : List Nat) (f : Nat) (have_ : List String)
    (out : List (String × Nat)) (r : List String × List (String × Nat)),
    Yaml.specMergeAll s f have_ out srcs = .ok r → ∃ added, r.2 = out ++ added := by
  intro srcs
  induction srcs with
  | nil =>
    intro f have_ out r h
    cases f with
    | zero => simp [Yaml.specMergeAll] at h
    | succ f =>
      simp only [Yaml.specMergeAll, Except.ok.injEq] at h
      subst h
      exact ⟨[], by simp⟩
  | cons src rest ih =>
    intro f have_ out r h
    cases f with
    | zero => simp [Yaml.specMergeAll] at h
    | succ f =>
      simp only [Yaml.specMergeAll] at h
      cases hc : Yaml.specContent s f src with
      | error e => simp [hc] at h
      | ok ps =>
        simp only [hc, Yaml.mergeInto_eq] at h
        obtain ⟨added, ha⟩ := ih f _ _ r h
        exact ⟨Yaml.fresh have_ ps ++ added, by rw [ha, List.append_assoc]⟩

/-! ## The pipeline env block -/

theorem env_parse_order (kvs : List (String × Val)) (l : List (String × String))
    (h : parseEnvOrdered (.omap kvs) = .ok (some l)) : l.map (·.1) = kvs.map (·.1) :=
  keys_of_scalars_strings (env_scalars_strings kvs l h)

theorem lookup_umapOf_append_last (l : List (String × Val)) (k : String) (v : Val) :
    (Marshal.umapOf (l ++ [(k, v)])).lookup k = some v := by
  rw [marshal_umapOf_eq]
  unfold Parse.umapOf
  rw [List.foldl_append]
  simp only [List.foldl_cons, List.foldl_nil]
  rw [lookup_umapInsert, if_pos rfl]

theorem env_marshal_order (p : Pipeline) (l : List (String × String)) (j : Val)
    (he : p.env = some l) (h : mPipeline p = .ok j) :
    ∃ kvs, j = .umap kvs ∧ kvs.lookup "env" = some (.omap (l.map fun (k, v) => (k, .str v))) := by
  unfold mPipeline at h
  simp only [he] at h
  split at h
  · cases h
  · cases h
    refine ⟨_, rfl, ?_⟩
    rw [← List.append_assoc]
    exact lookup_umapOf_append_last _ _ _

theorem fieldOf_pipeline_env (m : Entries) :
    fieldOf (taken m Gen.struct_Pipeline) "Env" = m.lookup "env" :=
  (fieldOf_taken_find_key (fs := Gen.struct_Pipeline) (n := "Env") (by decide +kernel) rfl rfl rfl :)

theorem parsePipeline_env {m : Entries} {p : Pipeline} {ws : List Warn}
    (h : parsePipeline (.omap m) = .ok (p, ws)) :
    optField (taken m Gen.struct_Pipeline) "Env" none parseEnvOrdered = .ok p.env := by
  unfold parsePipeline at h
  simp only at h
  split at h
  · cases h
  · rename_i steps ws1 _
    split at h
    · cases h
    · rename_i env henv
      rw [henv]
      cases steps with
      | none =>
        simp only [Except.ok.injEq, Prod.mk.injEq] at h
        rw [← h.1]
      | some ss =>
        simp only [Except.ok.injEq, Prod.mk.injEq] at h
        rw [← h.1]

theorem parsePipeline_env_block {m : Entries} {kvs : List (String × Val)} {p : Pipeline} {ws : List Warn}
    (henv : m.lookup "env" = some (.omap kvs)) (hp : parsePipeline (.omap m) = .ok (p, ws)) :
    ∃ l, p.env = some l ∧ parseEnvOrdered (.omap kvs) = .ok (some l) := by
  have he := parsePipeline_env hp
  rw [optField_some ((fieldOf_pipeline_env m).trans henv)] at he
  cases hpe : p.env with
  | none =>
    rw [hpe] at he
    simp only [parseEnvOrdered, map_ok_iff] at he
    obtain ⟨_, _, hx⟩ := he
    cases hx
  | some l => exact ⟨l, rfl, hpe ▸ he⟩

/-! ## Encode then decode -/

theorem reread_keeps_keys : (kvs : List (String × Val)) → (rereadJKVs kvs).map (·.1) = kvs.map (·.1)
  | [] => by simp [rereadJKVs]
  | (k, v) :: r => by simp [rereadJKVs, reread_keeps_keys r]

mutual
  theorem reread_id : (v : Val) → NoUMap v → rereadJ v = v
    | .null, _ => by simp [rereadJ]
    | .bool _, _ => by simp [rereadJ]
    | .int _, _ => by simp [rereadJ]
    | .float _, _ => by simp [rereadJ]
    | .time _, _ => by simp [rereadJ]
    | .str _, _ => by simp [rereadJ]
    | .seq xs, h => by
      simp only [NoUMap] at h
      simp [rereadJ, rereadList_id xs h]
    | .omap kvs, h => by
      simp only [NoUMap] at h
      simp [rereadJ, rereadKVs_id kvs h]
    | .umap _, h => by simp [NoUMap] at h
  theorem rereadList_id : (xs : List Val) → NoUMapList xs → rereadJList xs = xs
    | [], _ => by simp [rereadJList]
    | x :: r, h => by
      simp only [NoUMapList] at h
      simp [rereadJList, reread_id x h.1, rereadList_id r h.2]
  theorem rereadKVs_id : (kvs : List (String × Val)) → NoUMapKVs kvs → rereadJKVs kvs = kvs
    | [], _ => by simp [rereadJKVs]
    | (k, v) :: r, h => by
      simp only [NoUMapKVs] at h
      simp [rereadJKVs, reread_id v h.1, rereadKVs_id r h.2]
end

end GoPipeline.Order
