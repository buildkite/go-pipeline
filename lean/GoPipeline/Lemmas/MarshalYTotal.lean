/-
  C13, YAML leg — `yaml.Marshal` gets a value tree for EVERY pipeline in the image of the parser.

  `Lemmas/FixpointOK.lean` proves the YAML fixpoint under `StablePipelineY`; that the encoding succeeds
  needs none of the `Stable*` conditions (nor distinct keys). The two ways `yPipeline` can fail are
    * `inlineConflict`: an inline key of a struct equal to a declared field key — never on a parser image,
      the remainder of `Unm.remainder` holds no key of a normal field (`RemOK`, `remOK_remMap`);
    * `emptyInputStep`: an input step with neither scalar nor contents — the parser builds `.input s none`
      only from a scalar that the scalar table recognises (so `s ≠ ""`) and `.input "" (some (umapOf m))`
      only from a mapping that `selOf` recognised (so `m ≠ []`).
  A group step of a parser image always has `steps := some _` (`parseGroup_ok`).
-/
import GoPipeline.Lemmas.StepOKY
namespace GoPipeline.EndToEnd
open GoPipeline GoPipeline.Pipe GoPipeline.Parse GoPipeline.Marshal GoPipeline.Unm GoPipeline.MarshalY
open GoPipeline.Roundtrip GoPipeline.SignedRT

theorem yaml_steps_total :
    (∀ f x s w, parseStep f x = .ok (s, w) → NoUMap x → ∃ j, yStep s = .ok j) ∧
    (∀ f xs ss ws, parseSteps f xs = .ok (ss, ws) → NoUMapList xs → ∃ js, ySteps ss = .ok js) := by
  -- a scalar or a mapping that was recognised as a wait / input step is not empty
  have hstr : ∀ {t : String} {k : StepKind.Kind}, StepKind.selectScalar Gen.scalarTable t = .known k →
      (t != "") = true := fun h => by simpa using selectScalar_ne_empty (by rw [h]; simp)
  apply parse_induction
  case unknown => exact fun _ x _ _ => ⟨x, rfl⟩
  case scalarWait => exact fun _ t hsel _ => ⟨_, by rw [yStep_wait, if_pos (hstr hsel)]⟩
  case scalarInput => exact fun _ t hsel _ => ⟨_, by rw [yStep_input, if_pos (hstr hsel)]⟩
  case command =>
    intro f m c _ hc hx
    rw [NoUMap] at hx
    exact ⟨_, yCommand_ok c (parseCommand_inv hx hc)⟩
  case wait => exact fun _ _ _ _ => ⟨_, yStep_wait _ _⟩
  case input =>
    intro f m hsel _
    refine ⟨umapV (some (Parse.umapOf m)), ?_⟩
    rw [yStep_input, lenUMap_umapOf_ne (selOf_ne_nil hsel)]; rfl
  case trigger => exact fun _ _ _ _ => ⟨_, yStep_trigger _⟩
  case group =>
    intro f m key grp xs ss _ hxs _ ih hx
    rw [NoUMap] at hx
    obtain ⟨js, hjs⟩ := ih (noUMapList_of_steps hx hxs)
    exact ⟨_, yStep_group_eq key grp ss _ js (remOK_remMap m Gen.struct_GroupStep hx) hjs⟩
  case nil => exact fun _ _ => ⟨[], rfl⟩
  case cons =>
    intro f x xs s ss w ws ih1 ih2 hx
    obtain ⟨j, hj⟩ := ih1 hx.1
    obtain ⟨js, hjs⟩ := ih2 hx.2
    exact ⟨j :: js, by rw [ySteps_cons, hj, hjs]⟩

theorem yStep_total (f : Nat) (x : Val) (s : Step) (w : List Warn) (hx : NoUMap x)
    (h : parseStep f x = .ok (s, w)) : ∃ j, yStep s = .ok j :=
  yaml_steps_total.1 f x s w h hx

theorem yaml_marshal_total (v : Val) (p : Pipeline) (ws : List Warn) (hv : NoUMap v) (hd : KeysNodup v)
    (hp : parsePipeline v = .ok (p, ws)) : ∃ j, MarshalY.yPipeline p = .ok j := by
  obtain ⟨xs, l, ws1, hl, hnu, _, hps, _⟩ := parsePipeline_inv hd hp
  obtain ⟨hx1, hR⟩ := hnu hv
  obtain ⟨js, hjs⟩ := yaml_steps_total.2 stepFuel xs l ws1 hps hx1
  exact ⟨_, yamlLeg.encP_eq hl hjs hR⟩

end GoPipeline.EndToEnd
