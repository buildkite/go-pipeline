/-
  Association lists with string keys, and the Go map store on its sorted-entries view.

  * `map_ok_iff`, a fact about `Except.map` that the parsers' lemmas share (it has no better home).
  * Lookups: `lookup_cons_if`; a lookup is `none` iff the key is absent; `mem_of_lookup` and, for distinct
    keys, its converse; lookups through a key filter and a map over the values.
  * Go map stores: `Marshal.umapInsert`/`umapOf` (on `Val`) are `Parse.umapInsert`/`umapOf` (generic)
    (`marshal_umapOf_eq`) and so is `Interp.umapInsert` (`Interp.umapInsert_eq_parse`, at the end); everything
    else is stated for the generic one, written unqualified.  Lookups, keys and members after a store.
  * A store is strictly sorted by key (`SortedK`, `sortedK_umapOf`), hence has distinct keys and is determined
    by its lookups (`sortedK_ext`).
  * Its lookups are those of the entry list it was built from when that list has distinct keys
    (`lookup_umapOf_nodup`).
  * Strictly key-sorted lists are the fixpoints of the store (`umapOf_sorted`).
  * The store of a non-empty list is non-empty.
  * The inline remainder of a struct's entries: its lookups and keys.
-/
import GoPipeline.Model.Parse
import GoPipeline.Model.Marshal
import GoPipeline.Model.Interp
namespace GoPipeline.Parse
open GoPipeline.Unm

/-! ## `Except.map` -/

theorem map_ok_iff {ε α β : Type} {f : α → β} {x : Except ε α} {b : β} :
    x.map f = .ok b ↔ ∃ a, x = .ok a ∧ b = f a := by
  cases x with
  | error e => simp [Except.map]
  | ok a => simp [Except.map, eq_comm]

/-! ## Lookups -/

theorem lookup_cons_if {β : Type} (k f : String) (v : β) (r : List (String × β)) :
    ((k, v) :: r).lookup f = if f = k then some v else r.lookup f := by
  rw [List.lookup_cons]
  by_cases h : f = k
  · simp [h]
  · simp [h, beq_eq_false_iff_ne.2 h]

theorem lookup_eq_none_iff_keys {β : Type} (l : List (String × β)) (k : String) :
    l.lookup k = none ↔ k ∉ l.map (·.1) := by
  rw [List.lookup_eq_none_iff]
  constructor
  · intro h hk
    obtain ⟨p, hp, rfl⟩ := List.mem_map.1 hk
    simpa using h p hp
  · intro h p hp
    exact bne_iff_ne.2 fun e => h (e ▸ List.mem_map_of_mem hp)

theorem lookup_none_of_not_mem {β : Type} {k : String} {l : List (String × β)}
    (h : k ∉ l.map (·.1)) : l.lookup k = none :=
  (lookup_eq_none_iff_keys l k).2 h

theorem lookup_ne_none_iff {β : Type} {l : List (String × β)} {k : String} :
    l.lookup k ≠ none ↔ k ∈ l.map (·.1) :=
  (not_congr (lookup_eq_none_iff_keys l k)).trans Classical.not_not

theorem lookup_of_mem_nodup {β : Type} {k : String} {v : β} : {l : List (String × β)} → (l.map (·.1)).Nodup →
    (k, v) ∈ l → l.lookup k = some v
  | (k0, v0) :: r, hn, h => by
    rw [List.map_cons, List.nodup_cons] at hn
    rw [lookup_cons_if]
    rcases List.mem_cons.1 h with e | h'
    · cases e; rw [if_pos rfl]
    · rw [if_neg fun e => hn.1 (List.mem_map.2 ⟨_, h', e⟩), lookup_of_mem_nodup hn.2 h']

theorem mem_of_lookup {β : Type} {k : String} {v : β} : {l : List (String × β)} →
    l.lookup k = some v → (k, v) ∈ l
  | [], h => by simp at h
  | (k0, v0) :: r, h => by
    rw [lookup_cons_if] at h
    split at h
    · rename_i e
      cases h
      exact e ▸ List.mem_cons_self
    · exact List.mem_cons_of_mem _ (mem_of_lookup h)

/-- Filtering by a predicate on the key does not disturb the lookups of the keys that pass. -/
theorem lookup_filter_key {β : Type} (p : String → Bool) (k : String) : (l : List (String × β)) →
    (l.filter (fun e => p e.1)).lookup k = if p k then l.lookup k else none
  | [] => by simp
  | (k0, v0) :: r => by
    rw [List.filter_cons, lookup_cons_if]
    split
    · rename_i hp
      rw [lookup_cons_if, lookup_filter_key p k r]
      by_cases e : k = k0
      · simp [e, hp]
      · simp [e]
    · rename_i hp
      rw [lookup_filter_key p k r]
      by_cases e : k = k0
      · simp [e, hp]
      · simp [e]


theorem lookup_map_val {α β : Type} (g : α → β) (k : String) : (l : List (String × α)) →
    (l.map fun p => (p.1, g p.2)).lookup k = (l.lookup k).map g
  | [] => rfl
  | (k0, v0) :: r => by
    rw [List.map_cons, lookup_cons_if, lookup_cons_if, lookup_map_val g k r]
    by_cases e : k = k0 <;> simp [e]

/-! ## Go map stores: `Marshal`'s is `Parse`'s; lookups and members after a store -/

theorem marshal_umapInsert_eq (k : String) (v : Val) : (m : List (String × Val)) →
    Marshal.umapInsert k v m = Parse.umapInsert k v m
  | [] => rfl
  | (k0, v0) :: r => by
    rw [Marshal.umapInsert, Parse.umapInsert, marshal_umapInsert_eq k v r]

theorem marshal_umapOf_eq (l : List (String × Val)) : Marshal.umapOf l = Parse.umapOf l := by
  unfold Marshal.umapOf Parse.umapOf
  congr 1
  funext acc p
  exact marshal_umapInsert_eq ..

theorem lookup_umapInsert {α : Type} (k : String) (v : α) (k' : String) :
    (m : List (String × α)) → (umapInsert k v m).lookup k' = if k' = k then some v else m.lookup k'
  | [] => lookup_cons_if ..
  | (k0, v0) :: r => by
    unfold umapInsert
    split
    · rename_i h
      rw [eq_of_beq h, lookup_cons_if, lookup_cons_if]
      split <;> rfl
    · rename_i hne
      split
      · rw [lookup_cons_if]
      · rw [lookup_cons_if, lookup_cons_if, lookup_umapInsert k v k' r]
        by_cases h : k' = k
        · rw [if_pos h, if_pos h, if_neg (fun e => hne (by simp [← e, h]))]
        · rw [if_neg h, if_neg h]

theorem mem_umapInsert {α : Type} {k : String} {v : α} {p : String × α} : {m : List (String × α)} →
    p ∈ umapInsert k v m → p = (k, v) ∨ p ∈ m
  | [], h => by simpa [umapInsert] using h
  | (k0, v0) :: r, h => by
    unfold umapInsert at h
    split at h
    · exact (List.mem_cons.1 h).imp_right (List.mem_cons_of_mem _)
    · split at h
      · exact List.mem_cons.1 h
      · rcases List.mem_cons.1 h with h | h
        · exact .inr (h ▸ List.mem_cons_self)
        · exact (mem_umapInsert h).imp_right (List.mem_cons_of_mem _)

theorem keys_umapInsert {α : Type} {k f : String} {v : α} {m : List (String × α)} :
    f ∈ (umapInsert k v m).map (·.1) ↔ f = k ∨ f ∈ m.map (·.1) := by
  rw [← lookup_ne_none_iff, ← lookup_ne_none_iff, lookup_umapInsert]
  by_cases e : f = k
  · rw [if_pos e]; exact ⟨fun _ => .inl e, fun _ => Option.some_ne_none _⟩
  · rw [if_neg e]; exact ⟨.inr, fun h => h.resolve_left e⟩

theorem mem_foldl_umapInsert {α : Type} {q : String × α} : (l acc : List (String × α)) →
    q ∈ l.foldl (fun acc p => umapInsert p.1 p.2 acc) acc → q ∈ l ∨ q ∈ acc
  | [], _, h => .inr h
  | p :: r, acc, h => by
    rw [List.foldl_cons] at h
    rcases mem_foldl_umapInsert r _ h with h | h
    · exact .inl (List.mem_cons_of_mem _ h)
    · rcases mem_umapInsert h with h | h
      · exact .inl (h ▸ List.mem_cons_self)
      · exact .inr h

theorem mem_umapOf {α : Type} {q : String × α} {l : List (String × α)} (h : q ∈ umapOf l) : q ∈ l := by
  rcases mem_foldl_umapInsert l [] h with h | h
  · exact h
  · cases h

/-! ## Stores are strictly sorted by key; such lists are determined by their lookups -/

/-- Sorted by key, strictly. -/
def SortedK {α : Type} (l : List (String × α)) : Prop := l.Pairwise (fun p q => p.1 < q.1)

theorem sortedK_sublist {α : Type} {l₁ l₂ : List (String × α)} (h : l₁.Sublist l₂) (hs : SortedK l₂) :
    SortedK l₁ := List.Pairwise.sublist h hs

theorem sortedK_singleton {α : Type} (p : String × α) : SortedK [p] := by
  simp [SortedK]

theorem str_lt_of_not {a b : String} (h1 : a ≠ b) (h2 : ¬ a < b) : b < a :=
  Classical.byContradiction fun h =>
    h1 (String.le_antisymm (String.not_lt.1 h) (String.not_lt.1 h2))

theorem sortedK_umapInsert {α : Type} (k : String) (v : α) : (m : List (String × α)) → SortedK m →
    SortedK (umapInsert k v m)
  | [], _ => List.pairwise_singleton ..
  | (k0, v0) :: r, h => by
    have ⟨h0, hr⟩ := List.pairwise_cons.1 h
    unfold umapInsert
    split
    · rename_i e
      rw [eq_of_beq e]
      exact List.pairwise_cons.2 ⟨h0, hr⟩
    · rename_i hne
      split
      · rename_i hlt
        refine List.pairwise_cons.2 ⟨fun q hq => ?_, h⟩
        rcases List.mem_cons.1 hq with rfl | hq
        · exact hlt
        · exact String.lt_trans hlt (h0 q hq)
      · rename_i hlt
        refine List.pairwise_cons.2 ⟨fun q hq => ?_, sortedK_umapInsert k v r hr⟩
        rcases mem_umapInsert hq with rfl | hq
        · exact str_lt_of_not (fun e => hne (beq_iff_eq.2 e)) hlt
        · exact h0 q hq

theorem sortedK_foldl {α : Type} : (l acc : List (String × α)) → SortedK acc →
    SortedK (l.foldl (fun acc p => umapInsert p.1 p.2 acc) acc)
  | [], _, h => h
  | _ :: r, _, h => sortedK_foldl r _ (sortedK_umapInsert _ _ _ h)

theorem sortedK_umapOf {α : Type} (l : List (String × α)) : SortedK (umapOf l) :=
  sortedK_foldl l [] List.Pairwise.nil

theorem nodup_keys_of_sortedK {α : Type} {l : List (String × α)} (hs : SortedK l) : (l.map (·.1)).Nodup :=
  List.pairwise_map.2 (hs.imp fun {a b} h (e : a.1 = b.1) => String.lt_irrefl _ (e ▸ h))

theorem nodup_keys_umapOf {α : Type} (l : List (String × α)) : ((umapOf l).map (·.1)).Nodup :=
  nodup_keys_of_sortedK (sortedK_umapOf l)

theorem sortedK_nodup {α : Type} {l : List (String × α)} (hs : SortedK l) : l.Nodup :=
  hs.imp fun {a b} h (e : a = b) => String.lt_irrefl _ (e ▸ h)

theorem sortedK_lookup {α : Type} {l : List (String × α)} (hs : SortedK l) {k : String} {v : α} :
    (k, v) ∈ l ↔ l.lookup k = some v := by
  refine ⟨fun h => ?_, mem_of_lookup⟩
  induction l with
  | nil => cases h
  | cons p r ih =>
    have ⟨h0, hr⟩ := List.pairwise_cons.1 hs
    rw [lookup_cons_if]
    rcases List.mem_cons.1 h with rfl | h
    · rw [if_pos rfl]
    · rw [if_neg (fun e => String.lt_irrefl _ (e ▸ h0 _ h)), ih hr h]

/-- Strictly key-sorted lists with equal lookups are equal. -/
theorem sortedK_ext {α : Type} {l₁ l₂ : List (String × α)} (h₁ : SortedK l₁) (h₂ : SortedK l₂)
    (h : ∀ f, l₁.lookup f = l₂.lookup f) : l₁ = l₂ := by
  have hp : l₁.Perm l₂ := by
    rw [List.perm_ext_iff_of_nodup (sortedK_nodup h₁) (sortedK_nodup h₂)]
    rintro ⟨k, v⟩
    rw [sortedK_lookup h₁, sortedK_lookup h₂, h]
  exact hp.eq_of_pairwise (fun a b _ _ hab hba => absurd hba (String.lt_asymm hab)) h₁ h₂

/-! ## Lookups of the store of an entry list -/

/-- Entries whose key is not stored leave the lookup alone. -/
theorem lookup_foldl_not_mem {α : Type} {k : String} : (l acc : List (String × α)) → k ∉ l.map (·.1) →
    (l.foldl (fun acc p => umapInsert p.1 p.2 acc) acc).lookup k = acc.lookup k
  | [], _, _ => rfl
  | (k0, v0) :: r, acc, h => by
    rw [List.map_cons, List.mem_cons, not_or] at h
    rw [List.foldl_cons, lookup_foldl_not_mem r _ h.2, lookup_umapInsert, if_neg h.1]

/-- Storing a duplicate-free entry list: each key reads back its entry. -/
theorem lookup_foldl_nodup {α : Type} {k : String} : (l acc : List (String × α)) → (l.map (·.1)).Nodup →
    (l.foldl (fun acc p => umapInsert p.1 p.2 acc) acc).lookup k =
      match l.lookup k with
      | some v => some v
      | none => acc.lookup k
  | [], _, _ => rfl
  | (k0, v0) :: r, acc, h => by
    rw [List.map_cons, List.nodup_cons] at h
    rw [List.foldl_cons, lookup_foldl_nodup r _ h.2, lookup_cons_if, lookup_umapInsert]
    by_cases e : k = k0
    · rw [if_pos e, if_pos e, e, lookup_none_of_not_mem h.1]
    · rw [if_neg e, if_neg e]

theorem lookup_umapOf_nodup {α : Type} {l : List (String × α)} (h : (l.map (·.1)).Nodup) (k : String) :
    (umapOf l).lookup k = l.lookup k := by
  unfold umapOf
  rw [lookup_foldl_nodup l [] h]
  cases l.lookup k <;> rfl

/-! ## Strictly key-sorted lists are the fixpoints of the store -/

/-- Storing a key larger than every stored key appends. -/
theorem umapInsert_append {α : Type} (k : String) (v : α) : (acc : List (String × α)) →
    (∀ p ∈ acc, p.1 < k) → umapInsert k v acc = acc ++ [(k, v)]
  | [], _ => rfl
  | (k0, v0) :: r, h => by
    have h0 : k0 < k := h (k0, v0) List.mem_cons_self
    have hne : (k == k0) = false := by
      simp only [beq_eq_false_iff_ne, ne_eq]
      intro e; subst e; exact String.lt_irrefl _ h0
    have hnlt : ¬ k < k0 := fun hlt => String.lt_asymm hlt h0
    unfold umapInsert
    simp only [hne, Bool.false_eq_true, if_false, hnlt, List.cons_append]
    rw [umapInsert_append k v r (fun p hp => h p (List.mem_cons_of_mem _ hp))]

theorem foldl_sorted {α : Type} : (l acc : List (String × α)) → SortedK (acc ++ l) →
    l.foldl (fun acc p => umapInsert p.1 p.2 acc) acc = acc ++ l
  | [], acc, _ => by simp
  | (k, v) :: r, acc, h => by
    rw [List.foldl_cons]
    have hlt : ∀ p ∈ acc, p.1 < k := by
      intro p hp
      unfold SortedK at h
      rw [List.pairwise_append] at h
      exact h.2.2 p hp (k, v) List.mem_cons_self
    rw [umapInsert_append k v acc hlt, foldl_sorted r (acc ++ [(k, v)]) (by simpa using h)]
    simp

/-- A strictly key-sorted list is a fixpoint of the map store. -/
theorem umapOf_sorted {α : Type} {l : List (String × α)} (h : SortedK l) : umapOf l = l := by
  unfold umapOf
  rw [foldl_sorted l [] (by simpa using h)]
  rfl

theorem umapOf_umapOf {α : Type} (l : List (String × α)) : umapOf (umapOf l) = umapOf l :=
  umapOf_sorted (sortedK_umapOf l)

/-! ## A Go map store of a non-empty entry list is non-empty -/

theorem umapInsert_ne_nil {α : Type} (k : String) (v : α) : (m : List (String × α)) → umapInsert k v m ≠ []
  | [] => List.cons_ne_nil _ _
  | (k0, v0) :: r => by
    unfold umapInsert
    split
    · exact List.cons_ne_nil _ _
    · split <;> exact List.cons_ne_nil _ _

theorem foldl_ne_nil {α : Type} : (l acc : List (String × α)) → (l ≠ [] ∨ acc ≠ []) →
    l.foldl (fun acc p => umapInsert p.1 p.2 acc) acc ≠ []
  | [], _, h => h.resolve_left (fun h => h rfl)
  | _ :: r, _, _ => foldl_ne_nil r _ (.inr (umapInsert_ne_nil _ _ _))

theorem umapOf_ne_nil {α : Type} {l : List (String × α)} (h : l ≠ []) : umapOf l ≠ [] :=
  foldl_ne_nil l [] (.inl h)

theorem umapOf_eq_nil_iff {α : Type} (l : List (String × α)) : umapOf l = [] ↔ l = [] :=
  ⟨fun h => match l, h with
    | [], _ => rfl
    | _ :: _, h => absurd h (umapOf_ne_nil (List.cons_ne_nil _ _)),
   fun h => by rw [h]; rfl⟩

/-! ## The inline remainder -/

theorem lookup_remainder (m : Entries) (fs : List Field) (k : String) :
    (remainder m fs).lookup k = if k ∈ outlineKeys m fs then none else m.lookup k := by
  unfold remainder
  rw [lookup_filter_key (fun k => !(outlineKeys m fs).contains k)]
  by_cases h : k ∈ outlineKeys m fs <;> simp [h]

theorem nodup_keys_remainder {m : Entries} (fs : List Field) (hm : (m.map (·.1)).Nodup) :
    ((remainder m fs).map (·.1)).Nodup :=
  hm.sublist (List.filter_sublist.map _)

end GoPipeline.Parse

namespace GoPipeline.Interp

/-- The Go-map store of the interpolation model is the parser's. -/
theorem umapInsert_eq_parse {α : Type} (k : String) (v : α) : (m : List (String × α)) →
    umapInsert k v m = Parse.umapInsert k v m
  | [] => rfl
  | (k0, v0) :: r => by rw [umapInsert, Parse.umapInsert, umapInsert_eq_parse k v r]

end GoPipeline.Interp
