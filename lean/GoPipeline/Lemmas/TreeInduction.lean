/-
  Induction over a decoded value with its sequences and mappings seen as lists of sub-values.

  `Val` is a nested inductive type, so `Val.rec` carries one motive per nesting (`List Val`,
  `List (String × Val)`, `String × Val`).  A theorem proved by recursion over `Val` with a tactic body is compiled
  by well-founded recursion with one `decreasing_by` search per recursive call; going through the recursor once,
  here, and handing out the induction hypothesis as a statement about the members of the list avoids that.
-/
import GoPipeline.Model.Val
namespace GoPipeline

theorem Val.induction {P : Val → Prop}
    (null : P .null) (bool : ∀ b, P (.bool b)) (int : ∀ i, P (.int i)) (float : ∀ l, P (.float l))
    (time : ∀ l, P (.time l)) (str : ∀ s, P (.str s))
    (seq : ∀ xs, (∀ x ∈ xs, P x) → P (.seq xs))
    (omap : ∀ kvs, (∀ p ∈ kvs, P p.2) → P (.omap kvs))
    (umap : ∀ kvs, (∀ p ∈ kvs, P p.2) → P (.umap kvs)) : ∀ v, P v :=
  Val.rec (motive_1 := P) (motive_2 := fun xs => ∀ x ∈ xs, P x) (motive_3 := fun kvs => ∀ p ∈ kvs, P p.2)
    (motive_4 := fun p => P p.2) null bool int float time str seq omap umap
    (fun _ h => nomatch h) (fun _ _ hx hr _ h => (List.mem_cons.1 h).elim (· ▸ hx) (hr _))
    (fun _ h => nomatch h) (fun _ _ hx hr _ h => (List.mem_cons.1 h).elim (· ▸ hx) (hr _))
    (fun _ _ h => h)

end GoPipeline
