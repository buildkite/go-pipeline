/-
  C02, YAML leg — the signed command step still verifies after `yaml.Marshal` and re-parse.

  The payload is computed from the JSON form of the matrix (`mMatrix`) on both legs; the YAML emitter keeps an
  adjustment's empty-ish `skip` (dropped on the JSON leg, finding F11), the re-parsed adjustment therefore has
  the same `with`, `skip` and inline entries (`MatrixSame`), hence the same `mAdjustment`.  The YAML leg writes a
  nil `signed_fields` as `[]`; `attach` always stores `some _`, so the embedded signature comes back exactly.
-/
import GoPipeline.Lemmas.SignedRoundtrip
import GoPipeline.Lemmas.RoundtripY
namespace GoPipeline.SignedRT
open GoPipeline GoPipeline.Pipe GoPipeline.Parse GoPipeline.Marshal GoPipeline.Signing GoPipeline.Roundtrip
  GoPipeline.Unm GoPipeline.MarshalY

section CommandY
variable (S : SigScheme) (render : S.Sig → String) (parseSig : String → Option S.Sig)

theorem signed_command_coreY (hrender : ∀ s, parseSig (render s) = some s)
    (c : CommandStep) (hok : CommandOK c) (hs : StableCommandY c)
    (k : S.Key) (alg repo : String) (penv env₁ : List (String × String)) (henv : EnvExtends penv env₁) :
    ∃ j kvs c', yCommand (attach S render (sign S k alg c repo penv) c) = .ok j ∧
      rereadJ j = .omap kvs ∧ parseCommand kvs = .ok c' ∧
      c'.signature = (attach S render (sign S k alg c repo penv) c).signature ∧
      StepVerifies S parseSig (S.pubOf k) repo env₁ c' ∧
      kvs.lookup "command" = some (.str c.command) ∧
      ∀ k', k' ∉ cmdOutlineKeys → kvs.lookup k' = (c.rem.getD []).lookup k' := by
  obtain ⟨j, kvs, c', hj, hU, hp, hn, hcmd, hoth, hsg, hmx⟩ :=
    command_roundtripY_reads _ (commandOK_attach S render (sign S k alg c repo penv) hok) hs
  have hsig : c'.signature = (attach S render (sign S k alg c repo penv) c).signature := by
    injection hsg.symm.trans (signature_roundtripY _)
  refine ⟨j, kvs, c', hj, hU, hp, hsig, ?_, hcmd, hoth⟩
  refine stepVerifies_of_sigSame S render parseSig hrender c k alg repo penv env₁ henv
    ⟨(congrArg CommandStep.command hn :), (congrArg CommandStep.env hn :), (congrArg CommandStep.plugins hn :), ?_⟩ hsig
  exact matrixField_of_reparse hmx fun m hm =>
    mxY_eq (hok.matrix m hm) ▸ matrix_roundtripY_same m (hok.matrix m hm)

end CommandY

end GoPipeline.SignedRT
