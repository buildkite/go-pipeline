/-
  C09, YAML leg — the normal form is a fixpoint of `yaml.Marshal` + re-parse as well, and both output
  formats carry the same data.

  `Model/MarshalY.lean` differs from `Model/Marshal.lean` in a handful of places (see its header). The
  bridge is `yStruct_ok_of_keys`: for an inline map in the image of the parser (`RemOK`: no key of a declared
  field) yaml.v3's struct encoding succeeds and is the very value `inlineFriendlyMarshalJSON` builds, so
  the re-parse theorems of `Lemmas/Roundtrip.lean` apply (the step tree and the pipeline are in
  `Lemmas/FixpointOK.lean`); what is left here is where the legs differ
  (`skip` kept unless nil, a cache never collapses to `false`, `signed_fields: []`, an empty env block
  omitted).
-/
import GoPipeline.Lemmas.Roundtrip
namespace GoPipeline.Roundtrip
open GoPipeline GoPipeline.Pipe GoPipeline.Parse GoPipeline.Marshal GoPipeline.Unm GoPipeline.MarshalY

/-! ## yaml.v3 struct encoding on parser images -/

/-- No inline key is a declared key, every outline key is: the encoding succeeds and is the value the
    JSON leg's `inlineFriendlyMarshalJSON` builds. -/
theorem yStruct_ok_of_keys {fs : List Field} {O : List (String × Val)} {K : List String} {rem : UMap Val}
    (hR : RemOK fs rem) (hO : (O.map (·.1)).Sublist K) (hKn : ∀ k ∈ K, k ∈ normalKeys fs) :
    yStruct fs O rem = .ok (inlineFriendly O rem) :=
  Order.yStruct_eq_json hR.free fun k hk => declaredKeys_eq fs ▸ hKn k (hO.subset hk)

/-! ## Components -/

/-! ### Adjustment: `skip` is kept unless nil, no `emptyishSkip` condition -/

theorem yIsZeroAny_null {v : Val} (h : yIsZeroAny v = true) : v = .null := by
  cases v <;> simp_all [yIsZeroAny]

theorem yAdjustment_ok (a : Adjustment) (hok : AdjOK a) :
    yAdjustment a = .ok (adjV (fun a => yIsZeroAny a.skip) (some a)) :=
  yStruct_ok_of_keys hok.rem (adjOutline_keys _ a) (by decide +kernel)

theorem yAdjustments_ok : (l : List (Option Adjustment)) → (∀ a, some a ∈ l → AdjOK a) →
    yAdjustments l = .ok (l.map (adjV fun a => yIsZeroAny a.skip))
  | [], _ => rfl
  | none :: r, h => by
    rw [yAdjustments, yAdjustments_ok r fun a ha => h a (List.mem_cons_of_mem _ ha)]
    rfl
  | some a :: r, h => by
    rw [yAdjustments, yAdjustment_ok a (h a List.mem_cons_self),
      yAdjustments_ok r fun a ha => h a (List.mem_cons_of_mem _ ha)]
    rfl

/-! ### Matrix -/

theorem yMatrix_ok (m : Matrix) (hok : MatrixOK m) :
    yMatrix m = .ok (matrixV (fun a => yIsZeroAny a.skip) m) := by
  unfold yMatrix matrixV
  split
  · rfl
  · simp only [yAdjustments_ok _ fun a ha => let ⟨l, hl, hal⟩ := mem_getD_nil ha; hok.adjs l hl a hal]
    exact yStruct_ok_of_keys hok.rem (mxOutline_keys m _) (by decide +kernel)

theorem matrix_roundtripY_same (m : Matrix) (hok : MatrixOK m) :
    ∃ m', parseMatrix (rereadJ (matrixV (fun a => yIsZeroAny a.skip) m)) = .ok (some m') ∧ MatrixSame m' m :=
  matrixV_reparse _ m hok fun _ _ => yIsZeroAny_null

/-! ### Cache: plain struct encoding, a cache that is only disabled is `{disabled: true}` -/

theorem yCache_eq (c : Cache) : yCache c = yStruct Gen.struct_Cache (cacheOutline c) c.rem := by
  obtain ⟨d, n, p, s, r⟩ := c
  cases d <;> rfl

theorem cache_roundtripY (c : Cache) (hR : RemOK Gen.struct_Cache c.rem) :
    ∃ v c', yCache c = .ok v ∧ parseCache (rereadJ v) = .ok (some c') ∧ normCache c' = normCache c := by
  obtain ⟨c', h1, h2⟩ := cache_reparse c hR
  exact ⟨_, c', (yCache_eq c).trans (yStruct_ok_of_keys hR (cacheOutline_keys c) (by decide +kernel)), h1, h2⟩

/-! ### Signature: a nil `signed_fields` is written `[]` and comes back as an empty slice -/

theorem signature_roundtripY (s : Signature) :
    parseSignature (rereadJ (ySignature s)) = .ok (some { s with signedFields := some (s.signedFields.getD []) }) := by
  have hr : rereadJ (ySignature s) = .omap [("algorithm", .str s.algorithm),
      ("signed_fields", strsV (s.signedFields.getD [])), ("value", .str s.value)] := by
    simp [ySignature, rereadJ, rereadJKVs, reread_strsV]
  rw [hr]
  exact signature_reparse _ _ _ _ (strsOf_strsV _)

/-! ## The command step -/

/-- The matrix value of a command step (total: the error branch is never taken on parser images,
    `yMatrix_ok`). -/
def mxY (m : Matrix) : Val := match yMatrix m with | .ok v => v | .error _ => .null
/-- The cache value likewise (`cache_roundtripY`). -/
def caY (k : Cache) : Val := match yCache k with | .ok v => v | .error _ => .null

theorem mxY_eq {m : Matrix} (hok : MatrixOK m) : mxY m = matrixV (fun a => yIsZeroAny a.skip) m := by
  simp only [mxY, yMatrix_ok m hok]

def cmdOutlineY (c : CommandStep) : List (String × Val) := cmdOutlineWith ySignature mxY caY c

theorem yCommand_eq (c : CommandStep)
    (hmx : ∀ m, c.matrix = some m → ∃ v, yMatrix m = .ok v)
    (hca : ∀ k, c.cache = some k → ∃ v, yCache k = .ok v) :
    yCommand c = yStruct Gen.struct_CommandStep (cmdOutlineY c) c.rem := by
  obtain ⟨key, label, command, plugins, env, sig, matrix, cache, rem⟩ := c
  cases matrix with
  | none =>
    cases cache with
    | none => cases sig <;> rfl
    | some k =>
      obtain ⟨w, hw⟩ := hca k rfl
      cases sig <;> simp only [yCommand, cmdOutlineY, cmdOutlineWith, optE, optO, caY, hw, Except.map] <;> rfl
  | some m =>
    obtain ⟨v, hv⟩ := hmx m rfl
    cases cache with
    | none => cases sig <;> simp only [yCommand, cmdOutlineY, cmdOutlineWith, optE, optO, mxY, hv, Except.map] <;> rfl
    | some k =>
      obtain ⟨w, hw⟩ := hca k rfl
      cases sig <;> simp only [yCommand, cmdOutlineY, cmdOutlineWith, optE, optO, mxY, caY, hv, hw, Except.map] <;> rfl

theorem cmdOutlineY_keys (c : CommandStep) : ((cmdOutlineY c).map (·.1)).Sublist cmdOutlineKeys :=
  cmdOutlineWith_keys _ _ _ c

/-- A command step in the image of the parser encodes, to the value the JSON leg's
    `inlineFriendlyMarshalJSON` would build from the YAML outline. -/
theorem yCommand_ok (c : CommandStep) (hok : CommandOK c) :
    yCommand c = .ok (inlineFriendly (cmdOutlineY c) c.rem) := by
  rw [yCommand_eq c
    (fun m hm => ⟨_, yMatrix_ok m (hok.matrix m hm)⟩)
    (fun k hk => let ⟨v, _, h, _⟩ := cache_roundtripY k (hok.cache k hk); ⟨v, h⟩)]
  exact yStruct_ok_of_keys hok.rem (cmdOutlineY_keys c) cmdOutlineKeys_normal

/-- The command step: `command_reparse` with the YAML encoders; no condition on `skip` values, and a nil
    `signed_fields` comes back as an empty slice. -/
theorem command_roundtripY_reads (c : CommandStep) (hok : CommandOK c) (hs : StableCommandY c) :
    ∃ j kvs c', yCommand c = .ok j ∧ rereadJ j = .omap kvs ∧ parseCommand kvs = .ok c' ∧
      normCommand c' = normCommand c ∧
      kvs.lookup "command" = some (.str c.command) ∧
      (∀ k, k ∉ cmdOutlineKeys → kvs.lookup k = (c.rem.getD []).lookup k) ∧
      (c.signature.map fun s => parseSignature (rereadJ (ySignature s))).getD (.ok none) = .ok c'.signature ∧
      (c.matrix.map fun m => parseMatrix (rereadJ (mxY m))).getD (.ok none) = .ok c'.matrix := by
  obtain ⟨kvs, c', h⟩ := command_reparse c hok hs.1 ySignature mxY caY
    (fun s _ => ⟨_, signature_roundtripY s, by cases s.signedFields <;> rfl⟩)
    (fun m hm =>
      let ⟨m', h1, h2⟩ := matrix_roundtripY_same m (hok.matrix m hm)
      ⟨m', mxY_eq (hok.matrix m hm) ▸ h1, normMatrix_of_same h2⟩)
    (fun k hk =>
      let ⟨v, k', h0, h1, h2⟩ := cache_roundtripY k (hok.cache k hk)
      ⟨k', by simp only [caY, h0]; exact h1, h2⟩)
  exact ⟨_, kvs, c', yCommand_ok c hok, h⟩

theorem command_roundtripY (c : CommandStep) (hok : CommandOK c) (hs : StableCommandY c) :
    ∃ j kvs c', yCommand c = .ok j ∧ rereadJ j = .omap kvs ∧ parseCommand kvs = .ok c' ∧
      normCommand c' = normCommand c ∧
      kvs.lookup "command" = some (.str c.command) ∧
      ∀ k, k ∉ cmdOutlineKeys → kvs.lookup k = (c.rem.getD []).lookup k :=
  let ⟨j, kvs, c', h0, h1, h2, h3, h4, h5, _⟩ := command_roundtripY_reads c hok hs
  ⟨j, kvs, c', h0, h1, h2, h3, h4, h5⟩

/-! ## The group step -/

theorem yStep_group_eq (k : String) (g : Option String) (l : List Step) (r : UMap Val) (js : List Val)
    (hR : RemOK Gen.struct_GroupStep r) (h : ySteps l = .ok js) :
    yStep (.group k g (some l) r) = .ok (inlineFriendly (grpOutline k g js) r) := by
  rw [yStep_group_some, h]
  exact yStruct_ok_of_keys hR (grpOutline_keys k g js) (by decide +kernel)

/-! ## The pipeline -/

/-- yaml.v3 omits an env block that is nil or empty (`ordered.Map.IsZero`). -/
theorem yPipeline_eq (p : Pipeline) (l : List Step) (js : List Val) (hl : p.steps = some l) (h : ySteps l = .ok js) :
    yPipeline p = yStruct Gen.struct_Pipeline (pipeOutline js (normList p.env)) p.rem := by
  obtain ⟨steps, env, rem⟩ := p
  simp only at hl
  subst hl
  unfold yPipeline
  simp only [h]
  cases env with
  | none => rfl
  | some e => cases e <;> rfl

/-! ## The two legs -/

theorem stableAdjustmentY_of {a : Adjustment} (h : StableAdjustment a) : StableAdjustmentY a := ⟨h.2.1, h.2.2⟩

theorem stableMatrixY_of {m : Matrix} (h : StableMatrix m) : StableMatrixY m :=
  ⟨fun l hl a ha => stableAdjustmentY_of (h.1 l hl a ha), h.2.1, h.2.2⟩

theorem stableCommandY_of {c : CommandStep} (h : StableCommand c) : StableCommandY c :=
  ⟨h.1, h.2.1, fun m hm => stableMatrixY_of (h.2.2.1 m hm), h.2.2.2.1, h.2.2.2.2⟩

mutual
  theorem stableStepY_of : (s : Step) → StableStep s → StableStepY s
    | .command c, h => by
      rw [StableStep] at h; rw [StableStepY]; exact stableCommandY_of h
    | .wait _ c, h => by rw [StableStep] at h; rw [StableStepY]; exact h
    | .input _ c, h => by rw [StableStep] at h; rw [StableStepY]; exact h
    | .trigger c, h => by rw [StableStep] at h; rw [StableStepY]; exact h
    | .group k g none r, h => by
      rw [StableStep] at h; rw [StableStepY]; exact ⟨trivial, h.2⟩
    | .group k g (some l) r, h => by
      rw [StableStep] at h; rw [StableStepY]; exact ⟨stableStepsY_of l h.1, h.2⟩
    | .unknown v, h => by rw [StableStep] at h; rw [StableStepY]; exact h
  theorem stableStepsY_of : (l : List Step) → StableSteps l → StableStepsY l
    | [], _ => by rw [StableStepsY]; trivial
    | s :: r, h => by
      rw [StableSteps] at h; rw [StableStepsY]; exact ⟨stableStepY_of s h.1, stableStepsY_of r h.2⟩
end

/-- The YAML leg needs less than the JSON leg. -/
theorem stablePipelineY_of {p : Pipeline} (h : StablePipeline p) : StablePipelineY p :=
  ⟨fun l hl => stableStepsY_of l (h.1 l hl), h.2⟩

end GoPipeline.Roundtrip
