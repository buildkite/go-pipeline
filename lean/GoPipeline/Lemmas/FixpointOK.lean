/-
  C09 for every structurally well-formed step tree, on both legs: marshal, re-read, re-parse gives the same tree
  up to the normal form, whether or not the tree came from the parser (`Lemmas/Roundtrip.lean` / `RoundtripY.lean`
  prove the re-parse of each struct level up to the command step).  The parser's image is a corollary
  (`parsed_step_fix`, `parsed_steps_fix`, `pipeline_fix`).

  `StepOK` alone is NOT enough for the fixpoint (it is enough for C02, where only the re-parse of the command
  steps matters and signing refuses unknown steps).  Each of the following trees is `StepOK` and `StableStep`, and
  its marshalled form does not re-parse to a tree with the same normal form (`Props/C09OK.lean`:
  `C09_form_needed_*`, `C09_unknown_hypothesis_needed_api`):

    (1) `.wait "" none`  (`&WaitStep{}` built through the API)            -> written `"wait"`, re-parsed as
        `.wait "wait" none`: the scalar is part of the normal form;
    (2) `.wait "wait" (some [("a", null)])`  (scalar AND contents)        -> written `"wait"`, the contents
        are dropped;
    (3) `.wait "" (some [("wait", null), ("a", null)])`  (an unsorted list as the representation of a Go
        map)                                                             -> re-parsed with sorted contents;
    (3') `.trigger (some [("trigger", umap [])])`  (a Go map inside the contents) -> comes back as an ordered
        mapping;
    (4) `.unknown null`, `.unknown "wait"`                               -> a hard error, a wait step;
    (5) `.group "" none (some [.unknown "foo"]) none`                    -> the nested warning is refused by
        `(*GroupStep).UnmarshalOrdered`, the whole group falls back to an unknown step.

  Hence two more hypotheses, both established by the parser and the first kept by env interpolation: `FormOK s`
  (the tree is in the form the marshaller writes it), and for an unknown step at the TOP level
      `∀ v, s = .unknown v → ∃ w, parseStep f v = .ok (.unknown v, w)`
  (for an unknown step this is exactly the fixpoint statement, so nothing weaker can do; it is vacuous otherwise).
  The re-parse raises no warning exactly when the tree holds no unknown step (`w' = [] ↔ NoUnknown s`).
-/
import GoPipeline.Lemmas.StepOK
import GoPipeline.Lemmas.RoundtripY
import GoPipeline.Lemmas.StepOKInterp
import GoPipeline.Lemmas.StepOKY
namespace GoPipeline.Roundtrip
open GoPipeline GoPipeline.Pipe GoPipeline.Parse GoPipeline.Marshal GoPipeline.Unm GoPipeline.MarshalY
  GoPipeline.SignedRT

/-! ## `NoUnknown` outside unknown steps -/

theorem noUnknown_of_formOK {s : Step} (hform : FormOK s) (hne : ∀ v, s ≠ .unknown v) : NoUnknown s := by
  cases s with
  | group k g ss r =>
    cases ss with
    | none => simp [NoUnknown]
    | some l => rw [formOK_group_some] at hform; rw [noUnknown_group_some]; exact hform.2
  | unknown v => exact absurd rfl (hne v)
  | _ => simp [NoUnknown]

theorem not_mem_unknown_of_noUnknownList : (l : List Step) → NoUnknownList l → ∀ v, Step.unknown v ∉ l
  | [], _, v, h => by cases h
  | s :: r, hl, v, h => by
    rw [NoUnknownList] at hl
    rcases List.mem_cons.1 h with h | h
    · rw [← h] at hl; exact noUnknown_unknown v hl.1
    · exact not_mem_unknown_of_noUnknownList r hl.2 v h

/-! ## The parser's image is in marshalled form, its warnings are its unknown steps -/

theorem contentsOK_umapOf {m : Entries} (hm : NoUMapKVs m) : ContentsOK (some (Parse.umapOf m)) :=
  ⟨sortedK_umapOf m, fun p hp => (noUMapKVs_iff m).1 hm p (mem_umapOf hp)⟩

theorem parse_formOK :
    (∀ f x s w, parseStep f x = .ok (s, w) → NoUMap x →
      FormOK s ∧ (w = [] ↔ NoUnknown s) ∧ ∀ v, s = .unknown v → v = x) ∧
    (∀ f xs ss ws, parseSteps f xs = .ok (ss, ws) → NoUMapList xs → FormsOK ss ∧ (ws = [] ↔ NoUnknownList ss)) := by
  have known : ∀ {s : Step} (x : Val), FormOK s → NoUnknown s → (∀ v, s ≠ .unknown v) →
      FormOK s ∧ (([] : List Warn) = [] ↔ NoUnknown s) ∧ ∀ v, s = .unknown v → v = x :=
    fun _ h1 h2 h3 => ⟨h1, ⟨fun _ => h2, fun _ => rfl⟩, fun v hv => absurd hv (h3 v)⟩
  apply parse_induction
  case unknown => exact fun f x a _ => ⟨by simp [FormOK], by simp [NoUnknown], fun v hv => by cases hv; rfl⟩
  case scalarWait =>
    intro f t hsel _
    have hne : t ≠ "" := selectScalar_ne_empty (by rw [hsel]; simp)
    exact known _ (by simp [FormOK, hne]) (by simp [NoUnknown]) (fun v e => nomatch e)
  case scalarInput =>
    intro f t hsel _
    have hne : t ≠ "" := selectScalar_ne_empty (by rw [hsel]; simp)
    exact known _ (by simp [FormOK, hne]) (by simp [NoUnknown]) (fun v e => nomatch e)
  case command => exact fun f m c _ _ _ => known _ (by simp [FormOK]) (by simp [NoUnknown]) (fun v e => nomatch e)
  case wait =>
    intro f m hsel hx
    rw [NoUMap] at hx
    refine known _ ?_ (by simp [NoUnknown]) (fun v e => nomatch e)
    rw [FormOK, if_pos rfl]
    exact ⟨contentsOK_umapOf hx, umapOf_ne_nil (selOf_ne_nil hsel)⟩
  case input =>
    intro f m hsel hx
    rw [NoUMap] at hx
    refine known _ ?_ (by simp [NoUnknown]) (fun v e => nomatch e)
    rw [FormOK, if_pos rfl]
    exact contentsOK_umapOf hx
  case trigger =>
    intro f m hsel hx
    rw [NoUMap] at hx
    refine known _ ?_ (by simp [NoUnknown]) (fun v e => nomatch e)
    rw [FormOK]
    exact contentsOK_umapOf hx
  case group =>
    intro f m key grp xs ss _ hxs _ ih hx
    rw [NoUMap] at hx
    obtain ⟨h1, h2⟩ := ih (noUMapList_of_steps hx hxs)
    refine known _ ?_ ?_ (fun v e => nomatch e)
    · rw [formOK_group_some]
      exact ⟨h1, h2.1 rfl⟩
    · rw [noUnknown_group_some]
      exact h2.1 rfl
  case nil => exact fun _ _ => ⟨trivial, by simp [NoUnknownList]⟩
  case cons =>
    intro f x xs s ss w ws ih1 ih2 hx
    rw [NoUMapList] at hx
    obtain ⟨h1, h2, _⟩ := ih1 hx.1
    obtain ⟨h3, h4⟩ := ih2 hx.2
    rw [FormsOK, NoUnknownList, List.append_eq_nil_iff, h2, h4]
    exact ⟨⟨h1, h3⟩, Iff.rfl⟩

theorem parseSteps_unknown_reparses (f : Nat) : (xs : List Val) → (l : List Step) → (ws : List Warn) →
    NoUMapList xs → parseSteps f xs = .ok (l, ws) →
    ∀ v, Step.unknown v ∈ l → ∃ w, parseStep f v = .ok (.unknown v, w)
  | [], l, ws, _, h, v, hv => by
    rw [parseSteps.eq_1] at h
    cases h
    cases hv
  | x :: xs, l, ws, hx, h, v, hv => by
    obtain ⟨s, w, ss', ws', hs, hss, rfl, rfl⟩ := parseSteps_cons_ok h
    rcases List.mem_cons.1 hv with rfl | hv
    · cases (parse_formOK.1 f x _ w hs hx.1).2.2 v rfl
      exact ⟨w, hs⟩
    · exact parseSteps_unknown_reparses f xs ss' ws' hx.2 hss v hv

/-! ## The fixpoint on either leg -/

section Leg
variable {ε : Type} (L : Leg ε)

/-- The statement of the fixpoint at one fuel level, for trees without unknown steps, with the same skeleton as
    `SignedOK` for the signed round trip: the re-parse raises no warning, which is needed one level up (a group
    step refuses nested warnings). -/
def FixRT (f : Nat) : Prop :=
  ∀ (s : Step), StepOK s → FormOK s → L.Stab s → stepDepth s ≤ f → NoUnknown s →
    ∃ j s', L.enc s = .ok j ∧ parseStep f (rereadJ j) = .ok (s', []) ∧ normStep s' = normStep s

theorem fix_list_of (f : Nat) (ih : FixRT L f) : (l : List Step) → StepsOK l → FormsOK l → L.StabL l →
    stepsDepth l ≤ f → NoUnknownList l →
    ∃ js ss', L.encL l = .ok js ∧ parseSteps f (rereadJList js) = .ok (ss', []) ∧ normSteps ss' = normSteps l
  | [], _, _, _, _, _ => ⟨[], [], L.encL_nil, by rw [rereadJList, parseSteps.eq_1], rfl⟩
  | s :: r, hok, hform, hs, hdep, hnu => by
    rw [stepsDepth] at hdep
    obtain ⟨hd1, hd2⟩ := Nat.max_le.1 hdep
    obtain ⟨j, s1, hj, hp, hn⟩ := ih s hok.1 hform.1 (L.stabL_cons hs).1 hd1 hnu.1
    obtain ⟨js, ss1, hjs, hps, hns⟩ := fix_list_of f ih r hok.2 hform.2 (L.stabL_cons hs).2 hd2 hnu.2
    refine ⟨j :: js, s1 :: ss1, L.encL_cons hj hjs, ?_, ?_⟩
    · rw [rereadJList, parseSteps.eq_2, hp, hps]
      rfl
    · rw [normSteps, normSteps, hn, hns]

theorem fix_all : ∀ f, FixRT L f
  | 0 => fun s _ _ _ hd => absurd (stepDepth_pos s) (by omega)
  | f + 1 => by
    have ih := fix_all f
    intro s hok hform hs hdep hnu
    cases s with
    | command c =>
      rw [StepOK] at hok
      obtain ⟨j, U, c', hj, hU, hp, hnc, hUc, hUo⟩ := L.command c hok.1 (L.stab_command hs)
      refine ⟨j, .command c', hj, ?_, by rw [normStep, normStep, hnc]⟩
      rw [hU, parseStep.eq_3, selOf_command_reparsed hok.2 hUc hUo]
      simp only [hp]
    | group key grp ss r =>
      cases ss with
      | none => exact absurd hok (stepOK_group_none key grp r)
      | some l =>
        rw [stepOK_group_some] at hok
        rw [formOK_group_some] at hform
        rw [stepDepth_group_some] at hdep
        obtain ⟨js, ss', hjs, hps, hns⟩ := fix_list_of L f ih l hok.2.2 hform.1 (L.stab_group hs).1 (by omega) hform.2
        obtain ⟨U, hU, hpg, hrem, hUg, hUo⟩ := grpOutline_reparse f key grp r hok.1 (L.stab_group hs).2 js ss' hps
        refine ⟨_, .group key grp (some ss') (remMap (remainder U Gen.struct_GroupStep)),
          L.enc_group (k := key) (g := grp) hok.1 hjs, ?_, by simp only [normStep, hns, hrem]⟩
        rw [hU, parseStep.eq_3, selOf_group_reparsed hok.2.1 hUg hUo]
        simp only [hpg]
    | unknown v => exact absurd hnu (noUnknown_unknown v)
    | wait _ _ | input _ _ | trigger _ =>
      obtain ⟨j, s', hj, hp, _, hn⟩ := plain_reparse f hok trivial
      exact ⟨j, s', L.enc_plain hok trivial hj, hp, hn hform⟩

/-- Either leg (`jsonLeg`, `yamlLeg`), for EVERY structurally well-formed step tree in marshalled form:
    no parser hypothesis on the tree.  A top-level unknown step must hold a value that the parser classifies as
    unknown (`hu`, vacuous otherwise); the re-parse raises no warning exactly when there is no unknown step. -/
theorem step_fix (s : Step) (hok : StepOK s) (hform : FormOK s) (hs : L.Stab s) (f : Nat)
    (hf : stepDepth s ≤ f) (hu : ∀ v, s = .unknown v → ∃ w, parseStep f v = .ok (.unknown v, w)) :
    ∃ j s' w', L.enc s = .ok j ∧ parseStep f (rereadJ j) = .ok (s', w') ∧ normStep s' = normStep s ∧
      (w' = [] ↔ NoUnknown s) := by
  by_cases hunk : ∃ v, s = .unknown v
  · obtain ⟨v, rfl⟩ := hunk
    obtain ⟨w, hw⟩ := hu v rfl
    have hv : NoUMap v := by simpa [StepOK] using hok
    exact ⟨v, .unknown v, w,
      L.enc_unknown v,
      by rw [reread_noUMap v hv]; exact hw, rfl, (parse_formOK.1 f v _ w hw hv).2.1⟩
  · have hnu : NoUnknown s := noUnknown_of_formOK hform (fun v hv => hunk ⟨v, hv⟩)
    obtain ⟨j, s', h1, h2, h3⟩ := fix_all L f s hok hform hs hf hnu
    exact ⟨j, s', [], h1, h2, h3, ⟨fun _ => hnu, fun _ => rfl⟩⟩

theorem steps_fix : (l : List Step) → StepsOK l → FormsOK l → L.StabL l → (f : Nat) →
    stepsDepth l ≤ f → (∀ v, Step.unknown v ∈ l → ∃ w, parseStep f v = .ok (.unknown v, w)) →
    ∃ js ss' ws', L.encL l = .ok js ∧ parseSteps f (rereadJList js) = .ok (ss', ws') ∧
      normSteps ss' = normSteps l ∧ (ws' = [] ↔ NoUnknownList l)
  | [], _, _, _, f, _, _ =>
    ⟨[], [], [], L.encL_nil, by rw [rereadJList, parseSteps.eq_1], rfl, by simp [NoUnknownList]⟩
  | s :: r, hok, hform, hs, f, hdep, hu => by
    rw [stepsDepth] at hdep
    obtain ⟨hd1, hd2⟩ := Nat.max_le.1 hdep
    obtain ⟨j, s1, w1, hj, hp, hn, hw⟩ := step_fix L s hok.1 hform.1 (L.stabL_cons hs).1 f hd1
      (fun v hv => hu v (by rw [hv]; exact List.mem_cons_self))
    obtain ⟨js, ss1, ws1, hjs, hps, hns, hws⟩ := steps_fix r hok.2 hform.2 (L.stabL_cons hs).2 f hd2
      (fun v hv => hu v (List.mem_cons_of_mem _ hv))
    refine ⟨j :: js, s1 :: ss1, w1 ++ ws1, L.encL_cons hj hjs, ?_, ?_, ?_⟩
    · rw [rereadJList, parseSteps.eq_2, hp, hps]
    · rw [normSteps, normSteps, hn, hns]
    · rw [NoUnknownList, List.append_eq_nil_iff, hw, hws]

/-! ### In the parser's image every hypothesis of the fixpoint theorems holds -/

/-- A parsed step: the re-parse of the marshalled step raises the warnings of the parse, since an unknown step
    holds the parsed value itself. -/
theorem parsed_step_fix (f : Nat) (x : Val) (s : Step) (w : List Warn) (hx : NoUMap x) (hd : KeysNodup x)
    (h : parseStep f x = .ok (s, w)) (hs : L.Stab s) :
    ∃ j s' w', L.enc s = .ok j ∧ parseStep f (rereadJ j) = .ok (s', w') ∧ normStep s' = normStep s ∧ w' = w := by
  obtain ⟨hok, hdep⟩ := parse_stepOK.1 f x s w h hx hd
  obtain ⟨hform, hw, hv⟩ := parse_formOK.1 f x s w h hx
  by_cases hnu : NoUnknown s
  · obtain ⟨j, s', h1, h2, h3⟩ := fix_all L f s hok hform hs hdep hnu
    exact ⟨j, s', [], h1, h2, h3, (hw.2 hnu).symm⟩
  · cases s with
    | unknown v =>
      cases hv v rfl
      exact ⟨x, _, w, L.enc_unknown x,
        by rw [reread_noUMap x hx]; exact h, rfl, rfl⟩
    | _ => exact absurd (noUnknown_of_formOK hform (fun _ e => nomatch e)) hnu

theorem parsed_steps_fix (f : Nat) (xs : List Val) (l : List Step) (ws : List Warn) (hx : NoUMapList xs)
    (hd : KeysNodupList xs) (h : parseSteps f xs = .ok (l, ws)) (hs : L.StabL l) :
    ∃ js ss' ws', L.encL l = .ok js ∧ parseSteps f (rereadJList js) = .ok (ss', ws') ∧
      normSteps ss' = normSteps l := by
  obtain ⟨hok, hdep⟩ := parse_stepOK.2 f xs l ws h hx hd
  obtain ⟨js, ss', ws', h1, h2, h3, _⟩ := steps_fix L l hok (parse_formOK.2 f xs l ws h hx).1 hs f hdep
    (parseSteps_unknown_reparses f xs l ws hx h)
  exact ⟨js, ss', ws', h1, h2, h3⟩

end Leg

/-! ## Env interpolation keeps the form; the composed corollaries -/

section InterpForm
open GoPipeline.Interp
variable {E : Type}

theorem contentsOK_interp (tf : String → Except E String) (c c₁ : UMap Val) (hc : ContentsOK c)
    (h : interpUMapV tf c = .ok c₁) : ContentsOK c₁ := by
  obtain ⟨h1, h2, _⟩ := interpUMapV_inv tf c c₁ hc.2 h
  exact ⟨h1, h2⟩

theorem interp_noUnknown (kind : TfKind) (tf : String → Except E String) :
    (∀ s s₁, interpStep kind tf s = .ok s₁ → NoUnknown s → NoUnknown s₁) ∧
    (∀ l l₁, interpSteps kind tf l = .ok l₁ → NoUnknownList l → NoUnknownList l₁) := by
  apply interp_induction kind tf
  case command => exact fun _ _ _ _ => by simp [NoUnknown]
  case wait => exact fun _ _ _ _ _ => by simp [NoUnknown]
  case input => exact fun _ _ _ _ _ => by simp [NoUnknown]
  case trigger => exact fun _ _ _ _ => by simp [NoUnknown]
  case group_none => exact fun _ _ _ _ _ _ _ => by simp [NoUnknown]
  case group =>
    intro k g l r k' g' l₁ r' _ _ ih hnu
    rw [noUnknown_group_some] at hnu ⊢
    exact ih hnu
  case unknown => exact fun v _ _ hnu => absurd hnu (noUnknown_unknown v)
  case nil => exact fun h => h
  case cons => exact fun _ _ _ _ ih1 ih2 hnu => ⟨ih1 hnu.1, ih2 hnu.2⟩

theorem interp_formOK (tf : String → Except E String) :
    (∀ s s₁, interpStep .env tf s = .ok s₁ → StepOK s → FormOK s → TreeFixed tf s → FormOK s₁) ∧
    (∀ l l₁, interpSteps .env tf l = .ok l₁ → StepsOK l → FormsOK l → TreesFixed tf l → FormsOK l₁) := by
  apply interp_induction .env tf
  case command => exact fun _ _ _ _ _ _ => by simp [FormOK]
  case wait =>
    intro sc c c₁ hc hok hform hfix
    rw [TreeFixed] at hfix
    rw [StepOK] at hok
    rw [FormOK] at hform ⊢
    split
    · rw [if_pos ‹_›] at hok hform
      have hsel := hok.resolve_left hform.2
      exact ⟨contentsOK_interp tf c c₁ hform.1 hc,
        selOf_ne_nil (selOf_interp tf c c₁ (nodup_keys_of_sortedK hform.1.1) hfix.1 hfix.2 hc hsel)⟩
    · rw [if_neg ‹_›] at hform
      exact interpUMapV_nil tf c c₁ hc hform
  case input =>
    intro sc c c₁ hc _ hform _
    rw [FormOK] at hform ⊢
    split
    · rw [if_pos ‹_›] at hform
      exact contentsOK_interp tf c c₁ hform hc
    · rw [if_neg ‹_›] at hform
      exact interpUMapV_nil tf c c₁ hc hform
  case trigger =>
    intro c c₁ hc _ hform _
    rw [FormOK] at hform ⊢
    exact contentsOK_interp tf c c₁ hform hc
  case group_none => exact fun k g r _ _ _ hok => absurd hok (stepOK_group_none k g r)
  case group =>
    intro k g l r k' g' l₁ r' hl _ ih hok hform hfix
    rw [stepOK_group_some] at hok
    rw [formOK_group_some] at hform ⊢
    rw [treeFixed_group_some] at hfix
    exact ⟨ih hok.2.2 hform.1 hfix.2.2, (interp_noUnknown .env tf).2 l l₁ hl hform.2⟩
  case unknown => exact fun _ _ _ _ _ _ => by simp [FormOK]
  case nil => exact fun _ _ _ => trivial
  case cons => exact fun _ _ _ _ ih1 ih2 hok hform hfix => ⟨ih1 hok.1 hform.1 hfix.1, ih2 hok.2 hform.2 hfix.2⟩

end InterpForm

/-- Parsed, then interpolated with a `TreesFixed` transformer: well-formed, in marshalled form, covered by the
    parser fuel. -/
theorem parse_then_interp_form {E : Type} (f : Nat) (xs : List Val) (l l₁ : List Step) (ws : List Warn)
    (hx : NoUMapList xs) (hd : KeysNodupList xs) (h : parseSteps f xs = .ok (l, ws))
    (tf : String → Except E String) (hi : Interp.interpSteps .env tf l = .ok l₁) (hfix : TreesFixed tf l) :
    StepsOK l₁ ∧ FormsOK l₁ ∧ stepsDepth l₁ ≤ f ∧ (ws = [] → NoUnknownList l₁) := by
  obtain ⟨hok₁, hdep₁⟩ := parse_then_interp_list f xs l l₁ ws hx hd h tf hi hfix
  obtain ⟨hok, _⟩ := parseSteps_stepsOK f xs l ws hx hd h
  obtain ⟨hform, hws⟩ := parse_formOK.2 f xs l ws h hx
  exact ⟨hok₁, (interp_formOK tf).2 l l₁ hi hok hform hfix, hdep₁,
    fun hw => (interp_noUnknown .env tf).2 l l₁ hi (hws.1 hw)⟩

/-- The interpolated pipeline's normal form is a fixpoint too, on either leg.  `hu`: a top-level unknown step
    of the INTERPOLATED list must still hold a value that the parser classifies as unknown (interpolation
    rewrites the value of an unknown step freely; without `hu` the statement is false,
    `C09_unknown_hypothesis_needed`). -/
theorem interp_then_fix {E ε : Type} (L : Leg ε) (f : Nat) (xs : List Val) (l l₁ : List Step) (ws : List Warn)
    (hx : NoUMapList xs) (hd : KeysNodupList xs) (h : parseSteps f xs = .ok (l, ws))
    (tf : String → Except E String) (hi : Interp.interpSteps .env tf l = .ok l₁) (hfix : TreesFixed tf l)
    (hs : L.StabL l₁)
    (hu : ∀ v, Step.unknown v ∈ l₁ → ∃ w, parseStep f v = .ok (.unknown v, w)) :
    ∃ js ss' ws', L.encL l₁ = .ok js ∧ parseSteps f (rereadJList js) = .ok (ss', ws') ∧
      normSteps ss' = normSteps l₁ ∧ (ws' = [] ↔ NoUnknownList l₁) := by
  obtain ⟨hok₁, hform₁, hdep₁, _⟩ := parse_then_interp_form f xs l l₁ ws hx hd h tf hi hfix
  exact steps_fix L l₁ hok₁ hform₁ hs f hdep₁ hu

/-- For a document that parsed without warnings: no hypothesis on unknown steps (there are none), and the
    re-parse raises no warning either. -/
theorem interp_then_fix_clean {E ε : Type} (L : Leg ε) (f : Nat) (xs : List Val) (l l₁ : List Step)
    (hx : NoUMapList xs) (hd : KeysNodupList xs) (h : parseSteps f xs = .ok (l, []))
    (tf : String → Except E String) (hi : Interp.interpSteps .env tf l = .ok l₁) (hfix : TreesFixed tf l)
    (hs : L.StabL l₁) :
    ∃ js ss', L.encL l₁ = .ok js ∧ parseSteps f (rereadJList js) = .ok (ss', []) ∧
      normSteps ss' = normSteps l₁ := by
  obtain ⟨hok₁, hform₁, hdep₁, hnu⟩ := parse_then_interp_form f xs l l₁ [] hx hd h tf hi hfix
  exact fix_list_of L f (fix_all L f) l₁ hok₁ hform₁ hs hdep₁ (hnu rfl)

/-! ## The whole pipeline in the image of the parser

`Leg.pipeline_reparse` adds the pipeline level; the legs differ in the env block that comes back
(`Leg.envBack`): the JSON leg writes it as it is, yaml.v3 omits a nil or empty one. -/

theorem step_roundtripY (f : Nat) (x : Val) (s : Step) (w : List Warn) (hx : NoUMap x) (hd : KeysNodup x)
    (h : parseStep f x = .ok (s, w)) (hs : StableStepY s) :
    ∃ j s' w', yStep s = .ok j ∧ parseStep f (rereadJ j) = .ok (s', w') ∧ normStep s' = normStep s ∧ w' = w :=
  parsed_step_fix yamlLeg f x s w hx hd h hs

theorem pipeline_fix {ε : Type} (L : Leg ε) (v : Val) (p : Pipeline) (ws : List Warn) (hv : NoUMap v)
    (hd : KeysNodup v) (h : parsePipeline v = .ok (p, ws)) (hs : ∀ l, p.steps = some l → L.StabL l) :
    ∃ j p' ws', L.encP p = .ok j ∧ parsePipeline (rereadJ j) = .ok (p', ws') ∧ normPipeline p' = normPipeline p := by
  obtain ⟨xs, l, ws1, hl, hnu, hx2, hps, _⟩ := parsePipeline_inv hd h
  obtain ⟨hx1, hR⟩ := hnu hv
  obtain ⟨js, ss', ws', hjs, hps', hns⟩ := parsed_steps_fix L stepFuel xs l ws1 hx1 hx2 hps (hs l hl)
  obtain ⟨j, rem', hj, hp, hrem⟩ := L.pipeline_reparse hl hjs hR hps'
  exact ⟨j, _, ws', hj, hp, by simp only [normPipeline, hns, hrem, hl, L.envBack_norm]⟩

end GoPipeline.Roundtrip
