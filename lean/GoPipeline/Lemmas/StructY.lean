/-
  The struct level of yaml.v3's encoding for an inline map that holds no declared key (`Free`): it succeeds, it
  is the Go map of the inline entries followed by the outline, and it is the value `inlineFriendlyMarshalJSON`
  builds. The parser's remainders are such maps (`free_remMap`). Also the equations of the YAML step encoder (`yStep`, `ySteps`).
  Shared by the C03 / C08 and the C09 side.
-/
import GoPipeline.Model.MarshalY
import GoPipeline.Lemmas.Assoc
import GoPipeline.Lemmas.Unmarshal
namespace GoPipeline.Order
open GoPipeline GoPipeline.Pipe GoPipeline.Parse GoPipeline.Marshal GoPipeline.Unm GoPipeline.MarshalY

/-- No key of the inline map is a declared key of the struct. -/
def Free (d : List Field) (rem : UMap Val) : Prop := ∀ p ∈ rem.getD [], p.1 ∉ declaredKeys d

theorem free_none (d : List Field) : Free d none := by
  intro p hp
  simp at hp

theorem yStruct_inv {d : List Field} {outline : List (String × Val)} {inline : UMap Val} {j : Val}
    (h : yStruct d outline inline = .ok j) :
    Free d inline ∧ j = .umap (Marshal.umapOf (inline.getD [] ++ outline)) := by
  unfold yStruct at h
  split at h
  · cases h
  · rename_i hf
    simp only [Except.ok.injEq] at h
    refine ⟨?_, h.symm⟩
    intro p hp hk
    have := List.find?_eq_none.1 hf p hp
    simp [hk] at this

theorem yStruct_of_free {d : List Field} (outline : List (String × Val)) {inline : UMap Val} (h : Free d inline) :
    yStruct d outline inline = .ok (.umap (Marshal.umapOf (inline.getD [] ++ outline))) := by
  unfold yStruct
  have hf : (inline.getD []).find? (fun p => (declaredKeys d).contains p.1) = none := by
    rw [List.find?_eq_none]
    intro p hp
    simpa using h p hp
  rw [hf]

theorem mem_declaredKeys {d : List Field} {k : String} (h : k ∈ declaredKeys d) :
    ∃ f ∈ d, f.role = .normal ∧ f.key = k := by
  unfold declaredKeys at h
  obtain ⟨f, hf, hm⟩ := List.mem_filterMap.1 h
  cases hr : f.role <;> simp only [hr, Option.some.injEq] at hm <;> first | exact ⟨f, hf, hr, hm⟩ | cases hm

/-- `inlineFriendlyMarshalJSON` on an inline map without declared keys, the outline being made of declared
    keys: nothing is filtered out. -/
theorem inlineFriendly_of_free {d : List Field} {outline : List (String × Val)} {inline : UMap Val}
    (hf : Free d inline) (ho : ∀ k ∈ outline.map (·.1), k ∈ declaredKeys d) :
    inlineFriendly outline inline = .umap (Marshal.umapOf (inline.getD [] ++ outline)) := by
  unfold inlineFriendly
  have hfil : (inline.getD []).filter (fun p => !(outline.map (·.1)).contains p.1) = inline.getD [] := by
    rw [List.filter_eq_self]
    intro p hp
    have hn : p.1 ∉ outline.map (·.1) := fun hm => hf p hp (ho _ hm)
    simpa using hn
  simp only [hfil]

/-- Under the same conditions yaml.v3's struct encoding succeeds and is the very value of the JSON leg. -/
theorem yStruct_eq_json {d : List Field} {outline : List (String × Val)} {inline : UMap Val}
    (hf : Free d inline) (ho : ∀ k ∈ outline.map (·.1), k ∈ declaredKeys d) :
    yStruct d outline inline = .ok (inlineFriendly outline inline) := by
  rw [yStruct_of_free outline hf, inlineFriendly_of_free hf ho]

theorem mem_of_mem_remMap {rest : Entries} {q : String × Val} (h : q ∈ (remMap rest).getD []) : q ∈ rest := by
  unfold remMap at h
  split at h
  · cases h
  · exact mem_umapOf h

/-- What `Unm.remainder` leaves for the inline map holds no key of a declared field: the parser's
    remainder never collides in yaml.v3's struct encoding. -/
theorem free_remMap (m : Entries) (fs : List Field) : Free fs (remMap (remainder m fs)) := by
  intro p hp hk
  obtain ⟨hkm, hno⟩ := (mem_keys_remainder fs m p.1).1 (List.mem_map_of_mem (mem_of_mem_remMap hp))
  obtain ⟨f, hf, hr, hfk⟩ := mem_declaredKeys hk
  obtain ⟨v, hv⟩ := mem_keys_lookup_some hkm
  exact hno (mem_outlineKeys.2 ⟨f, hf, hr, v, by simp [fieldTake, hfk, hv]⟩)

end GoPipeline.Order

namespace GoPipeline.Parse
open GoPipeline GoPipeline.Pipe GoPipeline.Marshal GoPipeline.MarshalY

local notation "grpD" => Gen.struct_GroupStep

/-! ## Step equations of the YAML leg (`yStep` is structurally recursive through `List Step`; the equations
    are stated here, by `rfl`) -/

theorem yStep_command (c : CommandStep) : yStep (.command c) = yCommand c := rfl
theorem yStep_wait (s : String) (c : UMap Val) :
    yStep (.wait s c) = .ok (if s != "" then .str s else if lenUMap c == 0 then .str "wait" else umapV c) := rfl
theorem yStep_input (s : String) (c : UMap Val) :
    yStep (.input s c) =
      if s != "" then .ok (.str s) else if lenUMap c == 0 then .error .emptyInputStep else .ok (umapV c) := rfl
theorem yStep_trigger (c : UMap Val) : yStep (.trigger c) = .ok (.umap (c.getD [])) := rfl
theorem yStep_unknown (v : Val) : yStep (.unknown v) = .ok v := rfl
theorem yStep_group_some (k : String) (g : Option String) (l : List Step) (r : UMap Val) :
    yStep (.group k g (some l) r) =
      match ySteps l with
      | .error e => .error e
      | .ok svs =>
        yStruct grpD ((if k == "" then [] else [("key", .str k)]) ++
          [("group", match g with | none => .null | some s => .str s), ("steps", .seq svs)]) r := rfl
theorem yStep_group_none (k : String) (g : Option String) (r : UMap Val) :
    yStep (.group k g none r) =
      yStruct grpD ((if k == "" then [] else [("key", .str k)]) ++
        [("group", match g with | none => .null | some s => .str s), ("steps", .seq [])]) r := rfl
theorem ySteps_nil : ySteps [] = .ok [] := rfl
theorem ySteps_cons (s : Step) (r : List Step) :
    ySteps (s :: r) =
      match yStep s with
      | .error e => .error e
      | .ok v =>
        match ySteps r with
        | .error e => .error e
        | .ok vs => .ok (v :: vs) := rfl

end GoPipeline.Parse
