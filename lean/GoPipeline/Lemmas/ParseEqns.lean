/-
  Facts about the parse model (`Model/Parse.lean`) and the JSON marshalling model (`Model/Marshal.lean`)
  shared by the C03 and C13 lemmas: the value a named field of a descriptor receives, what each field
  parser returns by the shape of its input, and the equations of `parseSteps` and of `mStep`/`mSteps`
  (`mStep` recurses through the nested inductive `Step`, `parseSteps` by well-founded recursion, so neither
  unfolds by `simp`).
-/
import Batteries.Data.List.Basic   -- `List.Forall₂`
import GoPipeline.Model.Parse
import GoPipeline.Model.Marshal
import GoPipeline.Lemmas.Unmarshal
import GoPipeline.Lemmas.Assoc
namespace GoPipeline.Parse
open GoPipeline GoPipeline.Pipe GoPipeline.Marshal GoPipeline.Unm

/-! ## The value of a named field -/

theorem fieldOf_cons (x : String × String × Val) (t : List (String × String × Val)) (name : String) :
    fieldOf (x :: t) name = if x.1 == name then some x.2.2 else fieldOf t name := by
  unfold fieldOf
  rw [List.find?_cons]
  cases h : (x.1 == name) <;> simp

theorem fieldOf_taken_cons_ne {m : Entries} {f : Field} {r : List Field} {n : String} (h : f.name ≠ n) :
    fieldOf (taken m (f :: r)) n = fieldOf (taken m r) n := by
  by_cases hr : f.role = .normal
  · cases ht : fieldTake m f with
    | none => rw [taken_cons_none hr ht]
    | some p => rw [taken_cons_some hr ht, fieldOf_cons, if_neg (by simpa using h)]
  · rw [taken_cons_other hr]

theorem fieldOf_taken_skip (m : Entries) (f : Field) (r : List Field) (name : String) (hne : f.name ≠ name) :
    fieldOf (taken m (f :: r)) name = fieldOf (taken m r) name :=
  fieldOf_taken_cons_ne hne

theorem fieldOf_taken_none {m : Entries} {n : String} : {fs : List Field} → n ∉ fs.map Field.name →
    fieldOf (taken m fs) n = none
  | [], _ => rfl
  | f :: r, h => by
    rw [List.map_cons, List.mem_cons, not_or] at h
    rw [fieldOf_taken_cons_ne (Ne.symm h.1)]
    exact fieldOf_taken_none h.2

/-- An ordinary field whose name does not come up again receives what `fieldTake` finds for it. -/
theorem fieldOf_taken_head {m : Entries} {f : Field} {r : List Field} {n : String}
    (hr : f.role = .normal) (hn : f.name = n) (hrest : fieldOf (taken m r) n = none) :
    fieldOf (taken m (f :: r)) n = (fieldTake m f).map (·.2) := by
  cases ht : fieldTake m f with
  | none => rw [taken_cons_none hr ht]; exact hrest
  | some p => rw [taken_cons_some hr ht, fieldOf_cons, if_pos (beq_iff_eq.2 hn)]; rfl

theorem fieldOf_taken_cons_eq {m : Entries} {f : Field} {r : List Field} {n : String}
    (hr : f.role = .normal) (hn : f.name = n) (hnot : n ∉ r.map Field.name) :
    fieldOf (taken m (f :: r)) n = (fieldTake m f).map (·.2) :=
  fieldOf_taken_head hr hn (fieldOf_taken_none hnot)

/-- An ordinary field without aliases receives `m.lookup key`. -/
theorem fieldOf_taken_hit (m : Entries) (f : Field) (r : List Field) (name : String)
    (hn : f.name = name) (hr : f.role = .normal) (hal : f.aliases = [""])
    (hrest : fieldOf (taken m r) name = none) :
    fieldOf (taken m (f :: r)) name = m.lookup f.key := by
  rw [fieldOf_taken_head hr hn hrest, fieldTake, hal]
  cases m.lookup f.key <;> rfl

/-- In a descriptor with distinct field names, the ordinary field called `n` receives the first
    present among its tag key and its non-empty aliases. -/
theorem fieldOf_taken_find {m : Entries} {n : String} {f : Field} : {fs : List Field} →
    (fs.map Field.name).Nodup → fs.find? (fun g => g.name == n) = some f → f.role = .normal →
    fieldOf (taken m fs) n = (f.key :: f.aliases.filter (· != "")).findSome? (m.lookup ·)
  | g :: r, hnd, hf, hr => by
    rw [List.map_cons, List.nodup_cons] at hnd
    rw [List.find?_cons] at hf
    cases hg : g.name == n with
    | true =>
      rw [hg] at hf
      cases hf
      have hn : f.name = n := beq_iff_eq.1 hg
      rw [fieldOf_taken_cons_eq hr hn (hn ▸ hnd.1), fieldTake_value]
    | false =>
      rw [hg] at hf
      rw [fieldOf_taken_cons_ne (by simpa using hg)]
      exact fieldOf_taken_find hnd.2 hf hr

theorem fieldOf_taken_find_key {m : Entries} {n : String} {f : Field} {fs : List Field}
    (hnd : (fs.map Field.name).Nodup) (hf : fs.find? (fun g => g.name == n) = some f)
    (hr : f.role = .normal) (hal : f.aliases.filter (· != "") = []) :
    fieldOf (taken m fs) n = m.lookup f.key := by
  rw [fieldOf_taken_find hnd hf hr, hal, List.findSome?_singleton]

theorem optField_some {α : Type} {t : List (String × String × Val)} {name : String} {dflt : α}
    {f : Val → Except Hard α} {v : Val} (h : fieldOf t name = some v) : optField t name dflt f = f v := by
  rw [optField, h]

theorem optField_none {α : Type} {t : List (String × String × Val)} {name : String} {dflt : α}
    {f : Val → Except Hard α} (h : fieldOf t name = none) : optField t name dflt f = .ok dflt := by
  rw [optField, h]

/-! ## What the field parsers return, by the shape of the input -/

theorem parsePlugins_cases {v : Val} {l : List (Option Plugin)} (h : parsePlugins v = .ok (some l)) :
    l ≠ [] ∧ ((∃ xs, v = .seq xs ∧ pluginsElems xs = .ok l) ∨ ∃ kvs, v = .omap kvs ∧ l = pluginsOfMap kvs) := by
  cases v with
  | seq xs =>
    rw [parsePlugins] at h
    cases hx : pluginsElems xs with
    | error e => rw [hx] at h; cases h
    | ok l' =>
      rw [hx] at h
      cases l' with
      | nil => cases h
      | cons a t => cases h; exact ⟨List.cons_ne_nil _ _, .inl ⟨xs, rfl, hx⟩⟩
  | omap kvs =>
    cases kvs with
    | nil => cases h
    | cons a t => cases h; exact ⟨List.cons_ne_nil _ _, .inr ⟨_, rfl, rfl⟩⟩
  | _ => cases h

theorem parseCache_cases {v : Val} {c : Cache} (h : parseCache v = .ok (some c)) :
    (∃ b, v = .bool b ∧ c = { disabled := !b, name := "", paths := none, size := "", rem := none }) ∨
    (∃ s, v = .str s ∧ c = { disabled := false, name := "", paths := some [s], size := "", rem := none }) ∨
    (∃ xs l, v = .seq xs ∧ strsOfSeq xs = .ok l ∧
      c = { disabled := false, name := "", paths := some l, size := "", rem := none }) ∨
    ∃ m, v = .omap m ∧
      boolOf ((fieldOf (taken m Gen.struct_Cache) "Disabled").getD (.bool false)) = .ok c.disabled ∧
      strOf ((fieldOf (taken m Gen.struct_Cache) "Name").getD (.str "")) = .ok c.name ∧
      strsOf ((fieldOf (taken m Gen.struct_Cache) "Paths").getD .null) = .ok c.paths ∧
      strOf ((fieldOf (taken m Gen.struct_Cache) "Size").getD (.str "")) = .ok c.size ∧
      c.rem = remMap (remainder m Gen.struct_Cache) := by
  cases v with
  | bool b => cases h; exact .inl ⟨b, rfl, rfl⟩
  | str s => cases h; exact .inr (.inl ⟨s, rfl, rfl⟩)
  | seq xs =>
    rw [parseCache] at h
    cases hx : strsOfSeq xs with
    | error e => rw [hx] at h; cases h
    | ok l => rw [hx] at h; cases h; exact .inr (.inr (.inl ⟨xs, l, rfl, hx, rfl⟩))
  | omap m =>
    rw [parseCache] at h
    split at h
    · rename_i hd hn hp hs
      cases h
      exact .inr (.inr (.inr ⟨m, rfl, hd, hn, hp, hs, rfl⟩))
    · cases h
  | _ => cases h

theorem parseMatrix_cases {v : Val} {mx : Matrix} (h : parseMatrix v = .ok (some mx)) :
    (∃ xs l, v = .seq xs ∧ strsOfSeq xs = .ok l ∧
      mx = { setup := some [("", some l)], adjustments := none, rem := none }) ∨
    ∃ m, v = .omap m ∧
      optField (taken m Gen.struct_Matrix) "Setup" none parseSetup = .ok mx.setup ∧
      optField (taken m Gen.struct_Matrix) "Adjustments" none parseAdjustments = .ok mx.adjustments ∧
      mx.rem = remMap (remainder m Gen.struct_Matrix) := by
  cases v with
  | seq xs =>
    rw [parseMatrix] at h
    cases hx : strsOfSeq xs with
    | error e => rw [hx] at h; cases h
    | ok l => rw [hx] at h; cases h; exact .inl ⟨xs, l, rfl, hx, rfl⟩
  | omap m =>
    rw [parseMatrix] at h
    split at h
    · cases h
    · rename_i setup hs
      split at h
      · cases h
      · rename_i adjs ha
        cases h
        exact .inr ⟨m, rfl, hs, ha, rfl⟩
  | _ => cases h

theorem parseAdjustment_cases {m : Entries} {a : Adjustment} (h : parseAdjustment m = .ok a) :
    optField (taken m Gen.struct_MatrixAdjustment) "With" none parseWith = .ok a.with_ ∧
    a.skip = (fieldOf (taken m Gen.struct_MatrixAdjustment) "Skip").getD .null ∧
    a.rem = remMap (remainder m Gen.struct_MatrixAdjustment) := by
  rw [parseAdjustment] at h
  split at h
  · cases h
  · rename_i w hw
    cases h
    exact ⟨hw, rfl, rfl⟩

/-! ## Step lists -/

theorem forall₂_length {α β : Type} {R : α → β → Prop} : ∀ {l₁ : List α} {l₂ : List β},
    List.Forall₂ R l₁ l₂ → l₁.length = l₂.length
  | _, _, .nil => rfl
  | _, _, .cons _ h => congrArg (· + 1) (forall₂_length h)

theorem parseSteps_nil (f : Nat) : parseSteps f [] = .ok ([], []) := by
  rw [parseSteps]

theorem parseSteps_cons (f : Nat) (v : Val) (r : List Val) :
    parseSteps f (v :: r) =
      match parseStep f v with
      | .error e => .error e
      | .ok (s, w) =>
        match parseSteps f r with
        | .error e => .error e
        | .ok (ss, ws) => .ok (s :: ss, w ++ ws) := by
  rw [parseSteps]
  rfl

theorem parseSteps_cons_ok {f : Nat} {v : Val} {r : List Val} {ss : List Step} {ws : List Warn}
    (h : parseSteps f (v :: r) = .ok (ss, ws)) :
    ∃ s w ss' ws', parseStep f v = .ok (s, w) ∧ parseSteps f r = .ok (ss', ws') ∧ ss = s :: ss' ∧ ws = w ++ ws' := by
  rw [parseSteps_cons] at h
  split at h
  · cases h
  · rename_i s w hs
    split at h
    · cases h
    · rename_i ss' ws' hss
      cases h
      exact ⟨s, w, ss', ws', hs, hss, rfl, rfl⟩

theorem parseSteps_forall₂ {f : Nat} : ∀ {xs : List Val} {ss : List Step} {ws : List Warn},
    parseSteps f xs = .ok (ss, ws) → List.Forall₂ (fun x s => ∃ w, parseStep f x = .ok (s, w)) xs ss
  | [], ss, ws, h => by
    rw [parseSteps_nil] at h
    cases h
    exact .nil
  | v :: r, ss, ws, h => by
    obtain ⟨s, w, ss', ws', hs, hss, rfl, rfl⟩ := parseSteps_cons_ok h
    exact .cons ⟨w, hs⟩ (parseSteps_forall₂ hss)

/-! ## Marshalling of steps -/

theorem mStep_command (c : CommandStep) : mStep (.command c) = .ok (mCommand c) := rfl
theorem mStep_wait (s : String) (c : UMap Val) :
    mStep (.wait s c) = .ok (if s != "" then .str s else if lenUMap c == 0 then .str "wait" else umapV c) := rfl
theorem mStep_input (s : String) (c : UMap Val) :
    mStep (.input s c) = if s != "" then .ok (.str s) else if lenUMap c == 0 then .error .emptyInputStep else .ok (umapV c) := rfl
theorem mStep_trigger (c : UMap Val) : mStep (.trigger c) = .ok (umapV c) := rfl
theorem mStep_unknown (v : Val) : mStep (.unknown v) = .ok v := rfl
theorem mStep_group_some (k : String) (g : Option String) (l : List Step) (r : UMap Val) :
    mStep (.group k g (some l) r) =
      match ((mSteps l).map .seq : Except MErr Val) with
      | .error e => .error e
      | .ok sv =>
        .ok (inlineFriendly ((if k == "" then [] else [("key", .str k)]) ++
              [("group", match g with | none => .null | some s => .str s), ("steps", sv)]) r) := rfl
theorem mSteps_nil : mSteps [] = .ok [] := rfl
theorem mSteps_cons (s : Step) (r : List Step) :
    mSteps (s :: r) =
      match mStep s with
      | .error e => .error e
      | .ok v =>
        match mSteps r with
        | .error e => .error e
        | .ok vs => .ok (v :: vs) := rfl

/-- `mSteps` is `mStep` elementwise. -/
theorem mSteps_ok_iff : ∀ {ss : List Step} {js : List Val},
    mSteps ss = .ok js ↔ List.Forall₂ (fun s j => mStep s = .ok j) ss js
  | [], js => by
    rw [mSteps_nil]
    constructor
    · intro h; cases h; exact .nil
    · intro h; cases h; rfl
  | s :: r, js => by
    rw [mSteps_cons]
    constructor
    · intro h
      split at h
      · cases h
      · rename_i v hv
        split at h
        · cases h
        · rename_i vs hvs
          cases h
          exact .cons hv (mSteps_ok_iff.1 hvs)
    · intro h
      cases h with
      | cons hv hvs => rw [hv, mSteps_ok_iff.2 hvs]

end GoPipeline.Parse
