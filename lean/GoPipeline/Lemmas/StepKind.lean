/-
  C15 — what the table interpreters of `Model/StepKind.lean` compute on an arbitrary table; `byKeys` reads the
  key set only at the keys the table lists, `tbl.flatMap (·.1)`.
-/
import GoPipeline.Model.StepKind
import GoPipeline.Gen.StepKinds
namespace GoPipeline.StepKind
open GoPipeline.Gen

theorem byString_nil (s : String) : byString [] s = none := rfl

theorem byString_cons (ks : List String) (k : Kind) (tbl : List (List String × Kind)) (s : String) :
    byString ((ks, k) :: tbl) s = if s ∈ ks then some k else byString tbl s := by
  unfold byString
  rw [List.find?_cons]
  by_cases h : s ∈ ks
  · rw [if_pos h, List.contains_iff_mem.2 h]; rfl
  · rw [if_neg h, Bool.eq_false_iff.2 (mt List.contains_iff_mem.1 h)]

theorem byKeys_eq_none_iff (tbl : List (List String × Kind)) (has : String → Bool) :
    byKeys tbl has = none ↔ ∀ k ∈ tbl.flatMap (·.1), has k = false := by
  simp only [byKeys, Option.map_eq_none_iff, List.find?_eq_none, List.any_eq_true, not_exists, not_and,
    Bool.not_eq_true, List.mem_flatMap, forall_exists_index, and_imp]
  exact ⟨fun h k row hr hk => h row hr k hk, fun h row hr k hk => h k row hr hk⟩

theorem byKeys_congr (tbl : List (List String × Kind)) (has has' : String → Bool)
    (h : ∀ k ∈ tbl.flatMap (·.1), has k = has' k) : byKeys tbl has = byKeys tbl has' := by
  unfold byKeys
  congr 1
  induction tbl with
  | nil => rfl
  | cons row rest ih =>
    simp only [List.flatMap_cons, List.mem_append] at h
    have hrow : row.1.any has = row.1.any has' := by
      rw [Bool.eq_iff_iff, List.any_eq_true, List.any_eq_true]
      exact exists_congr fun k => and_congr_right fun hk => by rw [h k (Or.inl hk)]
    rw [List.find?_cons, List.find?_cons, hrow, ih fun k hk => h k (Or.inr hk)]

theorem select_absent_eq_inferFail (typeTbl inferTbl : List (List String × Kind)) (has : String → Bool) :
    select typeTbl inferTbl has .absent = .inferFail ↔ byKeys inferTbl has = none := by
  unfold select
  cases byKeys inferTbl has <;> simp

theorem inferTable_keys : inferTable.flatMap (·.1) = kindKeys := rfl

theorem inference_rule (has : String → Bool) :
    select typeTable inferTable has .absent = specInfer has := by
  simp only [select, byKeys, inferTable, specInfer, List.find?, List.any_cons, List.any_nil, Bool.or_false,
    Bool.or_assoc]
  cases has "command" || (has "commands" || has "plugins")
  · cases has "wait" || has "waiter"
    · cases has "block" || (has "input" || has "manual")
      · cases has "trigger"
        · cases has "group" <;> rfl
        · rfl
      · rfl
    · rfl
  · rfl

theorem selectScalar_empty : selectScalar scalarTable "" = .unknownType := by decide +kernel

end GoPipeline.StepKind
