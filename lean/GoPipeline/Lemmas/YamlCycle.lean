/-
  C07 — soundness of the recursion error: `decode` answers `.error .recursion` only if some node reachable
  (in the value graph of `Model/YamlGraph.lean`) from the node it was called on is already on the decoding
  path (`seen`) or lies on a cycle.
-/
import GoPipeline.Model.YamlGraph
import GoPipeline.Lemmas.Yaml
namespace GoPipeline.Yaml

/-- What the recursion error of a call on `i` exhibits. -/
def Witness (s : Store) (seen : List Nat) (i : Nat) : Prop :=
  ∃ j, Reach s i j ∧ (j ∈ seen ∨ OnCycle s j)

/-- From a child's witness (w.r.t. the extended path) to the parent's. -/
theorem Witness.lift {s : Store} {seen : List Nat} {i c : Nat} (he : Edge s i c)
    (h : Witness s (i :: seen) c) : Witness s seen i := by
  obtain ⟨j, hr, hj⟩ := h
  rcases hj with hj | hj
  · rcases List.mem_cons.mp hj with rfl | hj
    · exact ⟨j, .refl j, .inr ⟨c, he, hr⟩⟩
    · exact ⟨j, .step i c j he hr, .inl hj⟩
  · exact ⟨j, .step i c j he hr, .inr hj⟩

theorem recursion_witness (s : Store) : ∀ f,
    (∀ seen i, decode s f seen (some i) = .error .recursion → Witness s seen i) ∧
    (∀ seen cs, decodeList s f seen cs = .error .recursion → ∃ c ∈ cs, Witness s seen c) ∧
    (∀ seen ps acc, decodePairs s f seen ps acc = .error .recursion → ∃ kv ∈ ps, Witness s seen kv.2) := by
  intro f
  induction f with
  | zero => exact ⟨fun _ _ h => (nomatch h), fun _ _ h => (nomatch h), fun _ _ _ h => (nomatch h)⟩
  | succ f ih =>
    obtain ⟨ih1, ih2, ih3⟩ := ih
    refine ⟨?_, ?_, ?_⟩
    · intro seen i h
      by_cases hi : i ∈ seen
      · exact ⟨i, .refl i, .inl hi⟩
      rw [decode] at h
      simp only [List.contains_iff_mem, hi, if_false] at h
      cases hn : s[i]? with
      | none => rw [hn] at h; simp at h
      | some n =>
        rw [hn] at h
        simp only [] at h
        cases hk : n.kind <;> rw [hk] at h <;> simp only [] at h
        case scalar => split at h <;> simp at h
        case sequence =>
          obtain ⟨c, hc, hw⟩ := ih2 _ _ (map_eq_error h)
          exact Witness.lift (.seq i c n hn hk hc) hw
        case mapping =>
          split at h
          · next e he =>
            cases h
            exact absurd he (rangeMap_no_recursion s (bound s) i)
          · next ps hps =>
            obtain ⟨⟨k, v⟩, hkv, hw⟩ := ih3 _ _ _ (map_eq_error h)
            exact Witness.lift (.map i v n ps k hn hk hps hkv) hw
        case alias =>
          cases ht : n.aliasTo with
          | none =>
            rw [ht] at h
            cases f <;> simp [decode] at h
          | some t =>
            rw [ht] at h
            exact Witness.lift (.alias i t n hn hk ht) (ih1 _ _ h)
        case document =>
          split at h
          · simp at h
          · next c hc => exact Witness.lift (.doc i c n hn hk hc) (ih1 _ _ h)
          · simp at h
        case other => simp at h
    · intro seen cs h
      cases cs with
      | nil => simp [decodeList] at h
      | cons c rest =>
        simp only [decodeList] at h
        split at h
        · next e he =>
          cases h
          exact ⟨c, List.mem_cons_self, ih1 _ _ he⟩
        · obtain ⟨c', hc', hw⟩ := ih2 _ _ (map_eq_error h)
          exact ⟨c', List.mem_cons_of_mem _ hc', hw⟩
    · intro seen ps acc h
      cases ps with
      | nil => simp [decodePairs] at h
      | cons p rest =>
        obtain ⟨k, v⟩ := p
        simp only [decodePairs] at h
        split at h
        · next e he =>
          cases h
          exact ⟨(k, v), List.mem_cons_self, ih1 _ _ he⟩
        · obtain ⟨kv, hkv, hw⟩ := ih3 _ _ _ h
          exact ⟨kv, List.mem_cons_of_mem _ hkv, hw⟩

end GoPipeline.Yaml
