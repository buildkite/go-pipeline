/-
  C02 for the whole pipeline, both legs: `SignSteps` on the steps of a parsed pipeline, marshal, re-read,
  re-parse; every command step of the result verifies.

  The step trees of a parsed pipeline are well-formed (`parseSteps_stepsOK`), so the tree theorems of
  `Lemmas/StepOK.lean` / `Lemmas/StepOKY.lean` apply to them; `Leg.pipeline_reparse` adds the pipeline level.
  The legs differ in the env block that comes back: the JSON leg writes it as it is, yaml.v3 omits a nil or
  empty one, so the re-parsed pipeline has `env = normList p.env` there.
-/
import GoPipeline.Lemmas.StepOK
import GoPipeline.Lemmas.StepOKY
namespace GoPipeline.SignedRT
open GoPipeline GoPipeline.Pipe GoPipeline.Parse GoPipeline.Marshal GoPipeline.Signing GoPipeline.Roundtrip
  GoPipeline.Unm GoPipeline.MarshalY

section Pipeline
variable (S : SigScheme) (render : S.Sig → String) (parseSig : String → Option S.Sig)

theorem signed_pipeline_ok {ε : Type} (L : Leg ε) (v : Val) (p : Pipeline) (ws : List Warn) (hv : NoUMap v)
    (hd : KeysNodup v) (h : parsePipeline v = .ok (p, ws)) (hs : ∀ l, p.steps = some l → L.StabL l)
    (k : S.Key) (alg repo : String) (env₁ : List (String × String))
    (hcore : SignedCore S render parseSig k alg repo (p.env.getD []) env₁ L)
    (signed : List Step) (hsign : signSteps S render k alg repo (p.env.getD []) (p.steps.getD []) = .ok signed) :
    ∃ j p' ws', L.encP { p with steps := some signed } = .ok j ∧ parsePipeline (rereadJ j) = .ok (p', ws') ∧
      p'.env = L.envBack p.env ∧ VerifiesAllList S parseSig (S.pubOf k) repo env₁ (p'.steps.getD []) := by
  obtain ⟨xs, l, ws1, hl, hnu, hx2, hps, _⟩ := parsePipeline_inv hd h
  obtain ⟨hx1, hR⟩ := hnu hv
  rw [hl, Option.getD_some] at hsign
  obtain ⟨hok, hdep⟩ := parseSteps_stepsOK stepFuel xs l ws1 hx1 hx2 hps
  obtain ⟨js, ss', ws', hjs, hps', hvs⟩ := signed_steps_ok S render parseSig k alg repo _ env₁ L hcore l hok
    (hs l hl) stepFuel hdep signed hsign
  obtain ⟨j, rem', hj, hp', _⟩ := L.pipeline_reparse (p := { p with steps := some signed }) rfl hjs hR hps'
  exact ⟨j, _, ws', hj, hp', rfl, hvs⟩

end Pipeline

/-! ## The env block of a parsed pipeline extends itself

  The env block is read in document order from an ordered mapping (`parseEnvOrdered`), whose keys are pairwise
  distinct by `KeysNodup`; on a list with distinct keys every entry is found by `lookup`. -/

theorem envExtends_self {l : List (String × String)} (h : (l.map (·.1)).Nodup) : EnvExtends l l :=
  ⟨h, h, fun _ _ hm => Parse.lookup_of_mem_nodup h hm⟩

theorem parsePipeline_envExtends_self {v : Val} {p : Pipeline} {ws : List Warn} (hd : KeysNodup v)
    (h : parsePipeline v = .ok (p, ws)) : EnvExtends (p.env.getD []) (p.env.getD []) :=
  let ⟨_, _, _, _, _, _, _, hnd⟩ := parsePipeline_inv hd h
  envExtends_self hnd

end GoPipeline.SignedRT
