/-
  C08, YAML leg — lemmas behind `Props/C08Y.lean`: the value tree handed to `yaml.Marshal`
  (`Model/MarshalY.lean`) keeps the order-significant mappings exactly as the JSON leg does.

  This file sits on the `Lemmas/Order.lean` / `Lemmas/Parse03.lean` side of the import graph and does not depend
  on `Lemmas/RoundtripY.lean`; what is needed of the YAML leg is proved here from `Model/MarshalY.lean`, on top of
  the struct level of `Lemmas/StructY.lean` (`Free`, `yStruct_eq_json`, `free_remMap`).

  Both encoders write a struct level as the Go map of the inline entries followed by the outline, and an
  outline is what the struct's fields contribute one after the other, each nothing or one entry under its
  own key (`AtMost`). `lookup_fields` reads such a level field by field; it is instantiated once per struct
  (`cmd_fields` for the command step, whose signature / matrix / cache entries are parameters so that both
  legs are instances). The inline maps the parser produces never hold a declared key (`free_remMap`,
  `parseCommand_free`), which is why a parsed step always encodes (`yCommand_total_of_parse`).
-/
import GoPipeline.Lemmas.Order
import GoPipeline.Lemmas.StructY
namespace GoPipeline.Order
open GoPipeline GoPipeline.Pipe GoPipeline.Parse GoPipeline.Marshal GoPipeline.Unm GoPipeline.Roundtrip
open GoPipeline.MarshalY

/-! ## Which entry of a struct level a key reads back -/

theorem lookup_umapOf_none (a : List (String × Val)) (k : String) (hk : k ∉ a.map (·.1)) :
    (Marshal.umapOf a).lookup k = none := by
  rw [marshal_umapOf_eq]
  unfold Parse.umapOf
  rw [lookup_foldl_not_mem _ _ hk]
  rfl

/-- A declared key reads back the outline entry (absent from the outline ⇒ absent from the value: no inline
    key can stand in). -/
theorem lookup_struct_declared {d : List Field} {outline : List (String × Val)} {inline : UMap Val}
    (hf : Free d inline) (hnd : (outline.map (·.1)).Nodup) {k : String} (hk : k ∈ declaredKeys d) :
    (Marshal.umapOf (inline.getD [] ++ outline)).lookup k = outline.lookup k := by
  have hnone : (Marshal.umapOf (inline.getD [])).lookup k = none := by
    apply lookup_umapOf_none
    intro hmem
    obtain ⟨q, hq, hqk⟩ := List.mem_map.1 hmem
    exact hf q hq (hqk ▸ hk)
  rw [marshal_umapOf_eq] at hnone ⊢
  unfold Parse.umapOf at hnone ⊢
  rw [List.foldl_append, lookup_foldl_nodup outline _ hnd, hnone]
  cases outline.lookup k <;> rfl

/-! ## Outlines, field by field -/

/-- What one struct field contributes to the outline: nothing, or one entry under the field's key `k`. -/
def AtMost (k : String) (l : List (String × Val)) : Prop := List.Sublist (l.map (·.1)) [k]

theorem atMost_nil (k : String) : AtMost k [] := List.nil_sublist _
theorem atMost_one (k : String) (v : Val) : AtMost k [(k, v)] := List.Sublist.refl _

/-- An `omitempty` field. -/
theorem atMost_ite {p : Prop} [Decidable p] (k : String) (v : Val) : AtMost k (if p then [] else [(k, v)]) :=
  keys_ite_sublist p k v

theorem lookup_ite {p : Prop} [Decidable p] (a b : List (String × Val)) (k : String) :
    (if p then a else b).lookup k = if p then a.lookup k else b.lookup k := by
  split <;> rfl

theorem lookup_none_of_atMost {k0 : String} {l : List (String × Val)} (h : AtMost k0 l) {k : String}
    (hk : k ≠ k0) : l.lookup k = none :=
  lookup_none_of_not_mem (fun hm => hk (List.mem_singleton.1 (h.subset hm)))

theorem keys_flatten_sublist : {ks : List String} → {parts : List (List (String × Val))} →
    List.Forall₂ AtMost ks parts → List.Sublist (parts.flatten.map (·.1)) ks
  | _, _, .nil => List.Sublist.slnil
  | _, _, .cons h t => by
    rw [List.flatten_cons, List.map_append]
    exact h.append (keys_flatten_sublist t)

/-- With distinct field keys, a field's key reads in the outline what the field contributed. -/
theorem lookup_flatten : {ks : List String} → {parts : List (List (String × Val))} →
    List.Forall₂ AtMost ks parts → ks.Nodup →
    ∀ kp ∈ ks.zip parts, parts.flatten.lookup kp.1 = kp.2.lookup kp.1
  | _, _, .nil, _, _, h => by simp at h
  | k0 :: _, _ :: _, .cons h0 t, hN, kp, h => by
    rw [List.nodup_cons] at hN
    rw [List.flatten_cons, List.lookup_append]
    rcases List.mem_cons.1 h with rfl | h
    · rw [lookup_none_of_not_mem (fun hm => hN.1 ((keys_flatten_sublist t).subset hm)), Option.or_none]
    · have hk : kp.1 ≠ k0 := fun e => hN.1 (e ▸ (List.of_mem_zip h).1)
      rw [lookup_none_of_atMost h0 hk, Option.none_or]
      exact lookup_flatten t hN.2 kp h

/-- A struct level whose inline map holds no declared key, read field by field. -/
theorem lookup_fields {d : List Field} {ks : List String} {parts : List (List (String × Val))} {inline : UMap Val}
    (hd : declaredKeys d = ks) (hN : ks.Nodup) (hF : List.Forall₂ AtMost ks parts) (hf : Free d inline) :
    ∀ kp ∈ ks.zip parts, (Marshal.umapOf (inline.getD [] ++ parts.flatten)).lookup kp.1 = kp.2.lookup kp.1 := by
  intro kp h
  rw [lookup_struct_declared hf (List.Nodup.sublist (keys_flatten_sublist hF) hN) (hd ▸ (List.of_mem_zip h).1)]
  exact lookup_flatten hF hN kp h

/-- A struct level on both legs, the inline map holding no declared key and the outline being what the
    fields contribute: the two encoders agree, and each field's key reads what the field contributed. -/
theorem struct_fields {d : List Field} {ks : List String} {parts : List (List (String × Val))} {inline : UMap Val}
    (hd : declaredKeys d = ks) (hN : ks.Nodup) (hF : List.Forall₂ AtMost ks parts) (hf : Free d inline) :
    yStruct d parts.flatten inline = .ok (inlineFriendly parts.flatten inline) ∧
    ∃ kvs, inlineFriendly parts.flatten inline = .umap kvs ∧
      ∀ kp ∈ ks.zip parts, kvs.lookup kp.1 = kp.2.lookup kp.1 := by
  have ho : ∀ k ∈ parts.flatten.map (·.1), k ∈ declaredKeys d :=
    fun k hk => hd ▸ (keys_flatten_sublist hF).subset hk
  exact ⟨yStruct_eq_json hf ho, _, inlineFriendly_of_free hf ho, lookup_fields hd hN hF hf⟩

/-- A struct of two fields, the first always written. -/
theorem two_fields {d : List Field} {k1 k2 : String} (hd : declaredKeys d = [k1, k2]) (hne : k1 ≠ k2) (v1 : Val)
    {e : List (String × Val)} (he : AtMost k2 e) {inline : UMap Val} (hf : Free d inline) :
    yStruct d ([(k1, v1)] ++ e) inline = .ok (inlineFriendly ([(k1, v1)] ++ e) inline) ∧
    ∃ kvs, inlineFriendly ([(k1, v1)] ++ e) inline = .umap kvs ∧
      kvs.lookup k1 = some v1 ∧ kvs.lookup k2 = e.lookup k2 := by
  have h := struct_fields hd (by simp [hne]) (.cons (atMost_one k1 v1) (.cons he .nil)) hf
  simpa using h

/-! ## The pipeline level -/

theorem declaredKeys_pipeline : declaredKeys Gen.struct_Pipeline = ["steps", "env"] := rfl

/-- Every declared key of the YAML value tree of a pipeline: the encoded steps (a nil list is written `[]`),
    and the env block unless it is absent or empty — no unknown key can take its place, an inline key `env`
    would be a struct-encoding error. -/
theorem yPipeline_fields {p : Pipeline} {j : Val} (h : yPipeline p = .ok j) :
    ∃ kvs svs, j = .umap kvs ∧
      (match p.steps with | none => .ok [] | some l => ySteps l : Except YErr (List Val)) = .ok svs ∧
      kvs.lookup "steps" = some (.seq svs) ∧
      kvs.lookup "env" = match p.env with
        | none => none
        | some [] => none
        | some kvs => some (.omap (kvs.map fun (k, v) => (k, .str v))) := by
  unfold yPipeline at h
  split at h
  · cases h
  · rename_i svs hs
    have henv : AtMost "env" (match p.env with
        | none => []
        | some [] => []
        | some kvs => [("env", .omap (kvs.map fun (k, v) => (k, .str v)))]) := by
      split <;> simp [AtMost]
    obtain ⟨hy, kvs, hk, h1, h2⟩ := two_fields declaredKeys_pipeline (by simp) (.seq svs) henv (yStruct_inv h).1
    rw [hk] at hy
    cases hy.symm.trans h
    refine ⟨kvs, svs, rfl, hs, h1, h2.trans ?_⟩
    split <;> simp

theorem env_marshal_order_yaml (p : Pipeline) (l : List (String × String)) (j : Val)
    (he : p.env = some l) (hne : l ≠ []) (h : yPipeline p = .ok j) :
    ∃ kvs, j = .umap kvs ∧ kvs.lookup "env" = some (.omap (l.map fun (k, v) => (k, .str v))) := by
  obtain ⟨kvs, _, rfl, _, _, h2⟩ := yPipeline_fields h
  obtain ⟨a, t, rfl⟩ := List.exists_cons_of_ne_nil hne
  exact ⟨kvs, rfl, by rw [h2, he]⟩

theorem env_omitted_yaml (p : Pipeline) (j : Val) (he : p.env = none ∨ p.env = some [])
    (h : yPipeline p = .ok j) : ∃ kvs, j = .umap kvs ∧ kvs.lookup "env" = none := by
  obtain ⟨kvs, _, rfl, _, _, h2⟩ := yPipeline_fields h
  rcases he with he | he <;> exact ⟨kvs, rfl, by rw [h2, he]⟩

/-- The pipeline env block of a document: scalars become strings, document order kept. -/
theorem env_scalars_become_strings_yaml (m : Entries) (kvs : List (String × Val)) (p : Pipeline) (ws : List Warn)
    (j : Val) (henv : m.lookup "env" = some (.omap kvs)) (hne : kvs ≠ [])
    (hp : parsePipeline (.omap m) = .ok (p, ws)) (hj : yPipeline p = .ok j) :
    ∃ l out, List.Forall₂ (fun kv e => e.1 = kv.1 ∧ strOf kv.2 = .ok e.2) kvs l ∧
      j = .umap out ∧ out.lookup "env" = some (.omap (l.map fun (k, v) => (k, .str v))) := by
  obtain ⟨l, hpe, he⟩ := parsePipeline_env_block henv hp
  have hfa := env_scalars_strings kvs l he
  have hl : l ≠ [] := by
    rintro rfl
    cases hfa
    exact hne rfl
  obtain ⟨out, h1, h2⟩ := env_marshal_order_yaml p l j hpe hl hj
  exact ⟨l, out, hfa, h1, h2⟩

/-! ## The struct level of a command step -/

/-- The outline entries of a command step, the signature / matrix / cache entries being given: both legs
    write this outline, with their own three entries. -/
def cmdOutline (c : CommandStep) (sg mv cv : List (String × Val)) : List (String × Val) :=
  (if c.key == "" then [] else [("key", .str c.key)]) ++
  (if c.label == "" then [] else [("label", .str c.label)]) ++
  [("command", .str c.command)] ++
  (if (c.plugins.getD []).isEmpty then [] else [("plugins", mPlugins (c.plugins.getD []))]) ++
  (if lenUMap c.env == 0 then [] else [("env", envV c.env)]) ++
  sg ++ mv ++ cv

def cmdParts (c : CommandStep) (sg mv cv : List (String × Val)) : List (List (String × Val)) :=
  [if c.key == "" then [] else [("key", .str c.key)],
   if c.label == "" then [] else [("label", .str c.label)],
   [("command", .str c.command)],
   if (c.plugins.getD []).isEmpty then [] else [("plugins", mPlugins (c.plugins.getD []))],
   if lenUMap c.env == 0 then [] else [("env", envV c.env)],
   sg, mv, cv]

theorem cmdOutline_eq_flatten (c : CommandStep) (sg mv cv : List (String × Val)) :
    cmdOutline c sg mv cv = (cmdParts c sg mv cv).flatten := by
  simp [cmdOutline, cmdParts]

def ySigEntry (c : CommandStep) : List (String × Val) :=
  match c.signature with | none => [] | some s => [("signature", ySignature s)]

def yMatrixEntry (c : CommandStep) : Except YErr (List (String × Val)) :=
  match c.matrix with | none => .ok [] | some m => (yMatrix m).map fun v => [("matrix", v)]

def yCacheEntry (c : CommandStep) : Except YErr (List (String × Val)) :=
  match c.cache with | none => .ok [] | some k => (yCache k).map fun v => [("cache", v)]

def mSigEntry (c : CommandStep) : List (String × Val) :=
  match c.signature with | none => [] | some s => [("signature", mSignature s)]
def mMatrixEntry (c : CommandStep) : List (String × Val) :=
  match c.matrix with | none => [] | some m => [("matrix", mMatrix m)]
def mCacheEntry (c : CommandStep) : List (String × Val) :=
  match c.cache with | none => [] | some k => [("cache", mCache k)]

theorem yCommand_unfold (c : CommandStep) :
    yCommand c =
      match yMatrixEntry c, yCacheEntry c with
      | .error e, _ => .error e
      | _, .error e => .error e
      | .ok mv, .ok cv => yStruct Gen.struct_CommandStep (cmdOutline c (ySigEntry c) mv cv) c.rem := rfl

theorem mCommand_eq (c : CommandStep) :
    mCommand c = inlineFriendly (cmdOutline c (mSigEntry c) (mMatrixEntry c) (mCacheEntry c)) c.rem := rfl

theorem yCommand_inv {c : CommandStep} {j : Val} (h : yCommand c = .ok j) :
    ∃ mv cv, yMatrixEntry c = .ok mv ∧ yCacheEntry c = .ok cv ∧
      yStruct Gen.struct_CommandStep (cmdOutline c (ySigEntry c) mv cv) c.rem = .ok j := by
  unfold yCommand at h
  split at h
  · cases h
  · cases h
  · rename_i mv cv hmv hcv
    exact ⟨mv, cv, hmv, hcv, h⟩

theorem yCommand_of {c : CommandStep} {mv cv : List (String × Val)} (hmv : yMatrixEntry c = .ok mv)
    (hcv : yCacheEntry c = .ok cv) :
    yCommand c = yStruct Gen.struct_CommandStep (cmdOutline c (ySigEntry c) mv cv) c.rem := by
  rw [yCommand_unfold, hmv, hcv]

theorem ySigEntry_atMost (c : CommandStep) : AtMost "signature" (ySigEntry c) := by
  unfold ySigEntry
  split <;> simp [AtMost]
theorem mSigEntry_atMost (c : CommandStep) : AtMost "signature" (mSigEntry c) := by
  unfold mSigEntry
  split <;> simp [AtMost]
theorem mMatrixEntry_atMost (c : CommandStep) : AtMost "matrix" (mMatrixEntry c) := by
  unfold mMatrixEntry
  split <;> simp [AtMost]
theorem mCacheEntry_atMost (c : CommandStep) : AtMost "cache" (mCacheEntry c) := by
  unfold mCacheEntry
  split <;> simp [AtMost]
theorem yMatrixEntry_atMost {c : CommandStep} {mv : List (String × Val)} (h : yMatrixEntry c = .ok mv) :
    AtMost "matrix" mv := by
  unfold yMatrixEntry at h
  split at h
  · cases h
    exact atMost_nil _
  · obtain ⟨v, _, rfl⟩ := map_ok_iff.1 h
    exact atMost_one _ _
theorem yCacheEntry_atMost {c : CommandStep} {cv : List (String × Val)} (h : yCacheEntry c = .ok cv) :
    AtMost "cache" cv := by
  unfold yCacheEntry at h
  split at h
  · cases h
    exact atMost_nil _
  · obtain ⟨v, _, rfl⟩ := map_ok_iff.1 h
    exact atMost_one _ _

theorem declaredKeys_cs : declaredKeys Gen.struct_CommandStep =
    ["key", "label", "command", "plugins", "env", "signature", "matrix", "cache"] := rfl

theorem cmdParts_atMost (c : CommandStep) {sg mv cv : List (String × Val)}
    (h1 : AtMost "signature" sg) (h2 : AtMost "matrix" mv) (h3 : AtMost "cache" cv) :
    List.Forall₂ AtMost ["key", "label", "command", "plugins", "env", "signature", "matrix", "cache"]
      (cmdParts c sg mv cv) :=
  .cons (atMost_ite _ _) (.cons (atMost_ite _ _) (.cons (atMost_one _ _) (.cons (atMost_ite _ _)
    (.cons (atMost_ite _ _) (.cons h1 (.cons h2 (.cons h3 .nil)))))))

theorem cmdOutline_keys_sublist (c : CommandStep) {sg mv cv : List (String × Val)}
    (h1 : AtMost "signature" sg) (h2 : AtMost "matrix" mv) (h3 : AtMost "cache" cv) :
    List.Sublist ((cmdOutline c sg mv cv).map (·.1))
      ["key", "label", "command", "plugins", "env", "signature", "matrix", "cache"] := by
  rw [cmdOutline_eq_flatten]
  exact keys_flatten_sublist (cmdParts_atMost c h1 h2 h3)

/-- What the declared keys of a command step's value tree `kvs` hold, the signature / matrix / cache entries
    being `sg`, `mv`, `cv`. -/
def CmdFields (c : CommandStep) (sg mv cv kvs : List (String × Val)) : Prop :=
  kvs.lookup "key" = (if c.key = "" then none else some (.str c.key)) ∧
  kvs.lookup "label" = (if c.label = "" then none else some (.str c.label)) ∧
  kvs.lookup "command" = some (.str c.command) ∧
  kvs.lookup "plugins" = (if (c.plugins.getD []).isEmpty then none else some (mPlugins (c.plugins.getD []))) ∧
  kvs.lookup "env" = (if lenUMap c.env = 0 then none else some (envV c.env)) ∧
  kvs.lookup "signature" = sg.lookup "signature" ∧
  kvs.lookup "matrix" = mv.lookup "matrix" ∧
  kvs.lookup "cache" = cv.lookup "cache"

namespace CmdFields
variable {c : CommandStep} {sg mv cv kvs : List (String × Val)} (h : CmdFields c sg mv cv kvs)
include h

theorem key : kvs.lookup "key" = (if c.key = "" then none else some (.str c.key)) := h.1
theorem label : kvs.lookup "label" = (if c.label = "" then none else some (.str c.label)) := h.2.1
theorem command : kvs.lookup "command" = some (.str c.command) := h.2.2.1
theorem plugins : kvs.lookup "plugins" =
    (if (c.plugins.getD []).isEmpty then none else some (mPlugins (c.plugins.getD []))) := h.2.2.2.1
theorem env : kvs.lookup "env" = (if lenUMap c.env = 0 then none else some (envV c.env)) := h.2.2.2.2.1
theorem signature : kvs.lookup "signature" = sg.lookup "signature" := h.2.2.2.2.2.1
theorem matrix : kvs.lookup "matrix" = mv.lookup "matrix" := h.2.2.2.2.2.2.1
theorem cache : kvs.lookup "cache" = cv.lookup "cache" := h.2.2.2.2.2.2.2

end CmdFields

/-- The struct level of a command step on both legs: the encoders agree, and these are its declared keys. -/
theorem cmd_fields (c : CommandStep) {sg mv cv : List (String × Val)} {inline : UMap Val}
    (hf : Free Gen.struct_CommandStep inline)
    (h1 : AtMost "signature" sg) (h2 : AtMost "matrix" mv) (h3 : AtMost "cache" cv) :
    yStruct Gen.struct_CommandStep (cmdOutline c sg mv cv) inline =
      .ok (inlineFriendly (cmdOutline c sg mv cv) inline) ∧
    ∃ kvs, inlineFriendly (cmdOutline c sg mv cv) inline = .umap kvs ∧ CmdFields c sg mv cv kvs := by
  have h := struct_fields declaredKeys_cs (by simp) (cmdParts_atMost c h1 h2 h3) hf
  rw [← cmdOutline_eq_flatten] at h
  simpa [CmdFields, cmdParts, lookup_ite] using h

theorem yCommand_fields {c : CommandStep} {j : Val} (h : yCommand c = .ok j) :
    ∃ kvs mv cv, j = .umap kvs ∧ yMatrixEntry c = .ok mv ∧ yCacheEntry c = .ok cv ∧
      CmdFields c (ySigEntry c) mv cv kvs := by
  obtain ⟨mv, cv, hmv, hcv, hst⟩ := yCommand_inv h
  obtain ⟨e, kvs, hk, hF⟩ := cmd_fields c (yStruct_inv hst).1 (ySigEntry_atMost c) (yMatrixEntry_atMost hmv)
    (yCacheEntry_atMost hcv)
  rw [hk] at e
  cases e.symm.trans hst
  exact ⟨kvs, mv, cv, rfl, hmv, hcv, hF⟩

theorem mCommand_fields (c : CommandStep) (hf : Free Gen.struct_CommandStep c.rem) :
    ∃ kvs, mCommand c = .umap kvs ∧ CmdFields c (mSigEntry c) (mMatrixEntry c) (mCacheEntry c) kvs :=
  (cmd_fields c hf (mSigEntry_atMost c) (mMatrixEntry_atMost c) (mCacheEntry_atMost c)).2

/-! ## Unknown keys of a command step -/

/-- A key that is no declared key of a command step reads in its value tree what the inline map holds. -/
theorem yCommand_other {c : CommandStep} {j : Val} (h : yCommand c = .ok j)
    (hn : ((c.rem.getD []).map (·.1)).Nodup) {k : String}
    (hk : k ∉ ["key", "label", "command", "plugins", "env", "signature", "matrix", "cache"]) :
    ∃ kvs, j = .umap kvs ∧ kvs.lookup k = (c.rem.getD []).lookup k ∧ (kvs.map (·.1)).Nodup := by
  obtain ⟨mv, cv, hmv, hcv, hs⟩ := yCommand_inv h
  obtain ⟨_, rfl⟩ := yStruct_inv hs
  refine ⟨_, rfl, lookup_struct_inline hn fun hx => hk ?_, by rw [marshal_umapOf_eq]; exact nodup_keys_umapOf _⟩
  exact (cmdOutline_keys_sublist c (ySigEntry_atMost c) (yMatrixEntry_atMost hmv) (yCacheEntry_atMost hcv)).subset hx

theorem command_other_keys_preserved_yaml (m : Entries) (c : CommandStep) (j : Val) (h : parseCommand m = .ok c)
    (hj : yCommand c = .ok j) (hm : (keysOf m).Nodup) (k : String) (hk : k ∉ commandKeys) :
    ∃ kvs, j = .umap kvs ∧ kvs.lookup k = m.lookup k ∧ (kvs.map (·.1)).Nodup := by
  obtain ⟨hkey, hnd⟩ := command_rem_lookup_other m c h hm k hk
  simp only [commandKeys, List.mem_cons, List.not_mem_nil, or_false, not_or] at hk
  obtain ⟨kvs, rfl, e, hkn⟩ := yCommand_other hj hnd (k := k) (by simp [hk])
  exact ⟨kvs, rfl, e.trans hkey, hkn⟩

/-! ## A parsed command step always encodes -/

/-- The inline map of every adjustment is free of declared keys. -/
def AdjFree (l : List (Option Adjustment)) : Prop := ∀ a, some a ∈ l → Free Gen.struct_MatrixAdjustment a.rem

/-- Neither the inline map of the matrix nor that of any adjustment holds a declared key. -/
def MatrixFree (mx : Matrix) : Prop :=
  Free Gen.struct_Matrix mx.rem ∧ ∀ l, mx.adjustments = some l → AdjFree l

/-- No inline map of the step — its own, its matrix's, its cache's — holds a declared key. -/
def CmdFree (c : CommandStep) : Prop :=
  Free Gen.struct_CommandStep c.rem ∧ (∀ mx, c.matrix = some mx → MatrixFree mx) ∧
  (∀ k, c.cache = some k → Free Gen.struct_Cache k.rem)

theorem adjustmentsElems_free {xs : List Val} {l : List (Option Adjustment)}
    (h : adjustmentsElems xs = .ok l) : AdjFree l := by
  induction xs generalizing l with
  | nil => cases h; exact fun a ha => nomatch ha
  | cons x r ih =>
    cases x with
    | null =>
      rw [adjustmentsElems, map_ok_iff] at h
      obtain ⟨l', hr, rfl⟩ := h
      intro a ha
      exact ih hr a ((List.mem_cons.1 ha).resolve_left nofun)
    | omap m =>
      rw [adjustmentsElems] at h
      split at h
      · cases h
      · rename_i a0 hpa
        rw [map_ok_iff] at h
        obtain ⟨l', hr, rfl⟩ := h
        intro a ha
        rcases List.mem_cons.1 ha with ha | ha
        · cases ha
          exact (parseAdjustment_cases hpa).2.2 ▸ free_remMap _ _
        · exact ih hr a ha
    | _ => cases h

theorem optField_some_inv {α : Type} {t : List (String × String × Val)} {n : String}
    {f : Val → Except Hard (Option α)} {a : α} (h : optField t n none f = .ok (some a)) :
    ∃ v, f v = .ok (some a) := by
  unfold optField at h
  split at h
  · cases h
  · exact ⟨_, h⟩

theorem parseMatrix_free {v : Val} {mx : Matrix} (h : parseMatrix v = .ok (some mx)) : MatrixFree mx := by
  obtain ⟨_, _, _, _, rfl⟩ | ⟨m, _, _, ha, hrem⟩ := parseMatrix_cases h
  · exact ⟨free_none _, fun l hl => nomatch hl⟩
  · refine ⟨hrem ▸ free_remMap _ _, fun l hl => ?_⟩
    obtain ⟨w, hw⟩ := optField_some_inv (hl ▸ ha)
    cases w with
    | seq xs =>
      rw [parseAdjustments, map_ok_iff] at hw
      obtain ⟨l', hl', hx⟩ := hw
      cases hx
      exact adjustmentsElems_free hl'
    | _ => cases hw

theorem parseCache_free {v : Val} {k : Cache} (h : parseCache v = .ok (some k)) : Free Gen.struct_Cache k.rem := by
  obtain ⟨_, _, rfl⟩ | ⟨_, _, rfl⟩ | ⟨_, _, _, _, rfl⟩ | ⟨m, _, _, _, _, _, hrem⟩ := parseCache_cases h
  · exact free_none _
  · exact free_none _
  · exact free_none _
  · exact hrem ▸ free_remMap _ _

theorem parseCommand_free {m : Entries} {c : CommandStep} (h : parseCommand m = .ok c) : CmdFree c := by
  obtain ⟨_, _, _, _, _, _, _, _, _, hmx, hca, _, hrem⟩ := parseCommand_fields h
  refine ⟨hrem ▸ free_remMap _ _, fun mx hx => ?_, fun k hx => ?_⟩
  · obtain ⟨v, hv⟩ := optField_some_inv (hx ▸ hmx)
    exact parseMatrix_free hv
  · obtain ⟨v, hv⟩ := optField_some_inv (hx ▸ hca)
    exact parseCache_free hv

theorem yAdjustments_total : (l : List (Option Adjustment)) → AdjFree l → ∃ avs, yAdjustments l = .ok avs
  | [], _ => ⟨[], rfl⟩
  | none :: r, h => by
    obtain ⟨avs, ha⟩ := yAdjustments_total r (fun a ha => h a (List.mem_cons_of_mem _ ha))
    exact ⟨.null :: avs, by simp only [yAdjustments, ha, Except.map]⟩
  | some a :: r, h => by
    obtain ⟨avs, ha⟩ := yAdjustments_total r (fun a ha => h a (List.mem_cons_of_mem _ ha))
    simp only [yAdjustments, yAdjustment, yStruct_of_free _ (h a List.mem_cons_self), ha, Except.map]
    exact ⟨_, rfl⟩

theorem yMatrix_total {mx : Matrix} (h : MatrixFree mx) : ∃ j, yMatrix mx = .ok j := by
  unfold yMatrix
  split
  · exact ⟨_, rfl⟩
  · obtain ⟨avs, ha⟩ : ∃ avs, yAdjustments (mx.adjustments.getD []) = .ok avs := by
      cases hx : mx.adjustments with
      | none => exact ⟨[], rfl⟩
      | some l => exact yAdjustments_total l (h.2 l hx)
    simp only [ha]
    exact ⟨_, yStruct_of_free _ h.1⟩

theorem yCommand_total {c : CommandStep} (h : CmdFree c) : ∃ j, yCommand c = .ok j := by
  obtain ⟨mv, hmv⟩ : ∃ mv, yMatrixEntry c = .ok mv := by
    unfold yMatrixEntry
    cases hx : c.matrix with
    | none => exact ⟨[], rfl⟩
    | some mx =>
      obtain ⟨w, hw⟩ := yMatrix_total (h.2.1 mx hx)
      exact ⟨[("matrix", w)], by simp only [hw, Except.map]⟩
  obtain ⟨cv, hcv⟩ : ∃ cv, yCacheEntry c = .ok cv := by
    unfold yCacheEntry
    cases hx : c.cache with
    | none => exact ⟨[], rfl⟩
    | some k =>
      simp only [yCache, yStruct_of_free _ (h.2.2 k hx), Except.map]
      exact ⟨_, rfl⟩
  rw [yCommand_of hmv hcv]
  exact ⟨_, yStruct_of_free _ h.1⟩

/-- Every command step in the image of the parser has a YAML value tree. -/
theorem yCommand_total_of_parse (m : Entries) (c : CommandStep) (h : parseCommand m = .ok c) :
    ∃ j, yCommand c = .ok j :=
  yCommand_total (parseCommand_free h)

/-- Unknown keys of a parsed command step, the encoding being concluded instead of assumed. -/
theorem parsed_command_other_keys_yaml (m : Entries) (c : CommandStep) (h : parseCommand m = .ok c)
    (hm : (keysOf m).Nodup) (k : String) (hk : k ∉ commandKeys) :
    ∃ kvs, yCommand c = .ok (.umap kvs) ∧ kvs.lookup k = m.lookup k ∧ (kvs.map (·.1)).Nodup := by
  obtain ⟨j, hj⟩ := yCommand_total_of_parse m c h
  obtain ⟨kvs, rfl, h2, h3⟩ := command_other_keys_preserved_yaml m c j h hj hm k hk
  exact ⟨kvs, hj, h2, h3⟩

end GoPipeline.Order
