/-
  C03 — the parse model (`Model/Parse.lean`) composed with the JSON marshalling model (`Model/Marshal.lean`).
  `parseCommand_fields` inverts a successful `parseCommand` once. `mCommand` writes only its eight outline
  keys (`mCommand_outline`); any other key of the marshalled step is read from the inline remainder
  (`inlineFriendly_lookup`), which holds the input's own entry (`command_rem_lookup_other`).
-/
import GoPipeline.Lemmas.Assoc
import GoPipeline.Lemmas.ParseEqns
namespace GoPipeline.Parse
open GoPipeline GoPipeline.Pipe GoPipeline.Marshal GoPipeline.Unm

def keysOf (m : Entries) : List String := m.map (·.1)

/-- The keys a command step models (everything else is "any other key"). -/
def commandKeys : List String :=
  ["commands", "command", "key", "id", "identifier", "label", "name", "plugins", "env", "signature", "matrix", "cache"]

theorem mem_keys_of_lookup {β : Type} {k : String} {v : β} : {l : List (String × β)} →
    l.lookup k = some v → k ∈ l.map (·.1) :=
  fun h => Classical.byContradiction fun hk => by
    rw [lookup_none_of_not_mem hk] at h
    cases h

theorem lookup_remainder_of_not_claim {m : Entries} {fs : List Field} {k : String} (h : k ∉ claimKeys fs) :
    (remainder m fs).lookup k = m.lookup k := by
  rw [lookup_remainder, if_neg (fun hk => h ((outlineKeys_sublist m fs).subset hk))]

theorem lookup_remMap {rest : Entries} (hn : (rest.map (·.1)).Nodup) (k : String) :
    ((remMap rest).getD []).lookup k = rest.lookup k := by
  unfold remMap
  cases rest with
  | nil => rfl
  | cons p r =>
    simp only [List.isEmpty_cons, Bool.false_eq_true, if_false, Option.getD_some]
    exact lookup_umapOf_nodup hn k

theorem nodup_keys_remMap (rest : Entries) : (((remMap rest).getD []).map (·.1)).Nodup := by
  unfold remMap
  split
  · simp
  · exact nodup_keys_umapOf rest

/-! ## The two descriptors of a command step

  Table facts, evaluated by the kernel (the elaborator's own evaluation of string comparisons costs several
  times more). In `fieldOf_taken_find … rfl rfl` the first `rfl` finds the field of that name in the
  descriptor, the second checks its role; the key list on the right is that field's key followed by its
  aliases, by evaluation. -/

theorem claimKeys_outer : claimKeys Gen.struct_CommandStep_UnmarshalOrdered_local0 = ["commands", "command"] := by
  decide +kernel

theorem claimKeys_cs : claimKeys Gen.struct_CommandStep =
    ["key", "id", "identifier", "label", "name", "command", "plugins", "env", "signature", "matrix", "cache"] := by
  decide +kernel

theorem commandStep_names_nodup : (Gen.struct_CommandStep.map Field.name).Nodup := by
  decide +kernel

theorem fieldOf_commands (m : Entries) :
    fieldOf (taken m Gen.struct_CommandStep_UnmarshalOrdered_local0) "Commands" =
      ["commands", "command"].findSome? (m.lookup ·) :=
  (fieldOf_taken_find (fs := Gen.struct_CommandStep_UnmarshalOrdered_local0) (n := "Commands") (by decide +kernel) rfl rfl :)

theorem fieldOf_key (r : Entries) :
    fieldOf (taken r Gen.struct_CommandStep) "Key" = ["key", "id", "identifier"].findSome? (r.lookup ·) :=
  (fieldOf_taken_find (fs := Gen.struct_CommandStep) (n := "Key") commandStep_names_nodup rfl rfl :)

theorem fieldOf_label (r : Entries) :
    fieldOf (taken r Gen.struct_CommandStep) "Label" = ["label", "name"].findSome? (r.lookup ·) :=
  (fieldOf_taken_find (fs := Gen.struct_CommandStep) (n := "Label") commandStep_names_nodup rfl rfl :)

/-- Inversion of a successful `parseCommand`: every field of the result is the parse of the value its
    descriptor field received (the `command` key is read, checked and dropped; the text comes from the
    wrapper's `Commands`). -/
theorem parseCommand_fields {m : Entries} {c : CommandStep} (h : parseCommand m = .ok c) :
    ∃ cmds cmd, optField (taken m Gen.struct_CommandStep_UnmarshalOrdered_local0) "Commands" none strsOf = .ok cmds ∧
      optField (taken (remainder m Gen.struct_CommandStep_UnmarshalOrdered_local0) Gen.struct_CommandStep) "Key" "" strOf = .ok c.key ∧
      optField (taken (remainder m Gen.struct_CommandStep_UnmarshalOrdered_local0) Gen.struct_CommandStep) "Label" "" strOf = .ok c.label ∧
      optField (taken (remainder m Gen.struct_CommandStep_UnmarshalOrdered_local0) Gen.struct_CommandStep) "Command" "" strOf = .ok cmd ∧
      optField (taken (remainder m Gen.struct_CommandStep_UnmarshalOrdered_local0) Gen.struct_CommandStep) "Plugins" none parsePlugins = .ok c.plugins ∧
      optField (taken (remainder m Gen.struct_CommandStep_UnmarshalOrdered_local0) Gen.struct_CommandStep) "Env" none parseEnvMap = .ok c.env ∧
      optField (taken (remainder m Gen.struct_CommandStep_UnmarshalOrdered_local0) Gen.struct_CommandStep) "Signature" none parseSignature = .ok c.signature ∧
      optField (taken (remainder m Gen.struct_CommandStep_UnmarshalOrdered_local0) Gen.struct_CommandStep) "Matrix" none parseMatrix = .ok c.matrix ∧
      optField (taken (remainder m Gen.struct_CommandStep_UnmarshalOrdered_local0) Gen.struct_CommandStep) "Cache" none parseCache = .ok c.cache ∧
      c.command = joinLines (cmds.getD []) ∧
      c.rem = remMap (remainder (remainder m Gen.struct_CommandStep_UnmarshalOrdered_local0) Gen.struct_CommandStep) := by
  unfold parseCommand at h
  simp only at h
  split at h
  · cases h
  · rename_i cmds hc
    split at h
    · rename_i key label cmd plugins env sig matrix cache hk hl hcmd hp he hs hm hca
      cases h
      exact ⟨cmds, cmd, hc, hk, hl, hcmd, hp, he, hs, hm, hca, rfl, rfl⟩
    · cases h

theorem parseCommand_ok {m : Entries} {c : CommandStep} (h : parseCommand m = .ok c) :
    ∃ cmds, optField (taken m Gen.struct_CommandStep_UnmarshalOrdered_local0) "Commands" none strsOf = .ok cmds ∧
      optField (taken (remainder m Gen.struct_CommandStep_UnmarshalOrdered_local0) Gen.struct_CommandStep) "Key" "" strOf = .ok c.key ∧
      optField (taken (remainder m Gen.struct_CommandStep_UnmarshalOrdered_local0) Gen.struct_CommandStep) "Label" "" strOf = .ok c.label ∧
      c.command = joinLines (cmds.getD []) ∧
      c.rem = remMap (remainder (remainder m Gen.struct_CommandStep_UnmarshalOrdered_local0) Gen.struct_CommandStep) :=
  let ⟨cmds, _, hc, hk, hl, _, _, _, _, _, _, hcmd, hrem⟩ := parseCommand_fields h
  ⟨cmds, hc, hk, hl, hcmd, hrem⟩

/-! ## Command step -/

/-- Lookups in what the wrapper leaves for the command-step struct. -/
theorem lookup_rest {m : Entries} {k : String} (h : k ∉ ["commands", "command"]) :
    (remainder m Gen.struct_CommandStep_UnmarshalOrdered_local0).lookup k = m.lookup k :=
  lookup_remainder_of_not_claim (claimKeys_outer ▸ h)

theorem lookup_rest_none {m : Entries} {k : String} (h : m.lookup k = none) :
    (remainder m Gen.struct_CommandStep_UnmarshalOrdered_local0).lookup k = none := by
  rw [lookup_remainder, h, ite_self]

theorem command_join (m : Entries) (c : CommandStep) (h : parseCommand m = .ok c) (v : Val)
    (hv : m.lookup "commands" = some v ∨ (m.lookup "commands" = none ∧ m.lookup "command" = some v)) :
    ∃ l, strsOf v = .ok l ∧ c.command = joinLines (l.getD []) := by
  obtain ⟨cmds, hc, _, _, hcmd, _⟩ := parseCommand_ok h
  have hf : fieldOf (taken m Gen.struct_CommandStep_UnmarshalOrdered_local0) "Commands" = some v := by
    rw [fieldOf_commands]
    rcases hv with hv | ⟨h1, h2⟩
    · simp only [List.findSome?_cons, hv]
    · simp only [List.findSome?_cons, h1, h2]
  rw [optField_some hf] at hc
  exact ⟨cmds, hc, hcmd⟩

theorem no_command_key (m : Entries) (c : CommandStep) (h : parseCommand m = .ok c)
    (h1 : m.lookup "commands" = none) (h2 : m.lookup "command" = none) : c.command = "" := by
  obtain ⟨cmds, hc, _, _, hcmd, _⟩ := parseCommand_ok h
  have hf : fieldOf (taken m Gen.struct_CommandStep_UnmarshalOrdered_local0) "Commands" = none := by
    simp only [fieldOf_commands, List.findSome?_cons, List.findSome?_nil, h1, h2]
  rw [optField_none hf] at hc
  cases hc
  exact hcmd

theorem label_from_name (m : Entries) (c : CommandStep) (h : parseCommand m = .ok c) (v : Val)
    (hl : m.lookup "label" = none) (hn : m.lookup "name" = some v) : strOf v = .ok c.label := by
  obtain ⟨_, _, _, hlab, _, _⟩ := parseCommand_ok h
  rwa [optField_some] at hlab
  simp only [fieldOf_label, List.findSome?_cons, lookup_rest_none hl,
    lookup_rest (k := "name") (by decide), hn]

theorem key_from_aliases (m : Entries) (c : CommandStep) (h : parseCommand m = .ok c)
    (hk : m.lookup "key" = none) :
    (∀ v, m.lookup "id" = some v → strOf v = .ok c.key) ∧
    (∀ v, m.lookup "id" = none → m.lookup "identifier" = some v → strOf v = .ok c.key) ∧
    (m.lookup "id" = none → m.lookup "identifier" = none → c.key = "") := by
  obtain ⟨_, _, hkey, _, _, _⟩ := parseCommand_ok h
  have hf := fieldOf_key (remainder m Gen.struct_CommandStep_UnmarshalOrdered_local0)
  simp only [List.findSome?_cons, List.findSome?_nil, lookup_rest_none hk,
    lookup_rest (k := "id") (by decide), lookup_rest (k := "identifier") (by decide)] at hf
  refine ⟨fun v h1 => ?_, fun v h1 h2 => ?_, fun h1 h2 => ?_⟩
  · rw [h1] at hf
    rwa [optField_some hf] at hkey
  · rw [h1, h2] at hf
    rwa [optField_some hf] at hkey
  · rw [h1, h2] at hf
    rw [optField_none hf] at hkey
    exact (Except.ok.inj hkey).symm

/-- With `label` present, `name` is not claimed by any command-step field: the only field listing
    it is `Label`, whose own key comes first. -/
theorem name_not_outline {r : Entries} {v : Val} (h : r.lookup "label" = some v) :
    "name" ∉ outlineKeys r Gen.struct_CommandStep := by
  intro hmem
  obtain ⟨f, hf, _, w, ht⟩ := mem_outlineKeys.1 hmem
  have hkey : f.key = "label" :=
    (by decide +kernel : ∀ f ∈ Gen.struct_CommandStep,
      "name" ∈ f.key :: f.aliases.filter (· != "") → f.key = "label") f hf (fieldTake_some ht).1
  rw [fieldTake, hkey, h] at ht
  simp at ht

theorem label_primary (m : Entries) (c : CommandStep) (h : parseCommand m = .ok c) (v : Val)
    (hl : m.lookup "label" = some v) (hm : (keysOf m).Nodup) :
    strOf v = .ok c.label ∧ (c.rem.getD []).lookup "name" = m.lookup "name" := by
  obtain ⟨_, _, _, hlab, _, hrem⟩ := parseCommand_ok h
  have hl' : (remainder m Gen.struct_CommandStep_UnmarshalOrdered_local0).lookup "label" = some v := by rw [lookup_rest (by simp), hl]
  have hf : fieldOf (taken (remainder m Gen.struct_CommandStep_UnmarshalOrdered_local0) Gen.struct_CommandStep) "Label" = some v := by
    simp only [fieldOf_label, List.findSome?_cons, hl']
  rw [optField_some hf] at hlab
  refine ⟨hlab, ?_⟩
  rw [hrem, lookup_remMap (nodup_keys_remainder _ (nodup_keys_remainder _ hm)), lookup_remainder,
    if_neg (name_not_outline hl'), lookup_rest (by simp)]

/-! ## A struct level: the Go map of the inline entries followed by the outline -/

/-- Entries stored afterwards under other keys do not matter. -/
theorem lookup_umapOf_append_of_not_mem (a b : List (String × Val)) (k : String) (hk : k ∉ b.map (·.1)) :
    (Marshal.umapOf (a ++ b)).lookup k = (Marshal.umapOf a).lookup k := by
  rw [marshal_umapOf_eq, marshal_umapOf_eq]
  unfold Parse.umapOf
  rw [List.foldl_append, lookup_foldl_not_mem _ _ hk]

/-- A key outside the outline reads back the inline entry. -/
theorem lookup_struct_inline {outline : List (String × Val)} {inline : UMap Val}
    (hn : ((inline.getD []).map (·.1)).Nodup) {k : String} (hk : k ∉ outline.map (·.1)) :
    (Marshal.umapOf (inline.getD [] ++ outline)).lookup k = (inline.getD []).lookup k := by
  rw [lookup_umapOf_append_of_not_mem _ _ _ hk, marshal_umapOf_eq, lookup_umapOf_nodup hn]

/-- `inlineFriendlyMarshalJSON`: a key that is not an outline key reads back the inline entry. -/
theorem inlineFriendly_lookup (outline : List (String × Val)) (inline : UMap Val) (k : String)
    (hk : k ∉ outline.map (·.1)) (hn : ((inline.getD []).map (·.1)).Nodup) :
    ∃ kvs, inlineFriendly outline inline = .umap kvs ∧ kvs.lookup k = (inline.getD []).lookup k ∧
      (kvs.map (·.1)).Nodup := by
  refine ⟨_, rfl, ?_, by rw [marshal_umapOf_eq]; exact nodup_keys_umapOf _⟩
  refine (lookup_struct_inline (inline := some _) (hn.sublist (List.filter_sublist.map _)) hk).trans ?_
  rw [Option.getD_some, lookup_filter_key (fun k => !(outline.map (·.1)).contains k), if_pos (by simpa using hk)]

theorem keys_ite_sublist (b : Prop) [Decidable b] (k : String) (v : Val) :
    ((if b then [] else [(k, v)]).map (·.1)).Sublist [k] := by
  split
  · exact List.nil_sublist _
  · exact List.Sublist.refl _

/-- The keys `mCommand` writes itself; every other key comes from the inline remainder. -/
theorem mCommand_outline (c : CommandStep) : ∃ o, mCommand c = inlineFriendly o c.rem ∧
    (o.map (·.1)).Sublist ["key", "label", "command", "plugins", "env", "signature", "matrix", "cache"] := by
  refine ⟨_, rfl, ?_⟩
  simp only [List.map_append]
  show List.Sublist _ (["key"] ++ ["label"] ++ ["command"] ++ ["plugins"] ++ ["env"] ++ ["signature"] ++
    ["matrix"] ++ ["cache"])
  refine .append (.append (.append (.append (.append (.append (.append
    (keys_ite_sublist _ _ _) (keys_ite_sublist _ _ _)) (.refl _)) (keys_ite_sublist _ _ _))
    (keys_ite_sublist _ _ _)) ?_) ?_) ?_
  · cases c.signature
    · exact List.nil_sublist _
    · exact .refl _
  · cases c.matrix
    · exact List.nil_sublist _
    · exact .refl _
  · cases c.cache
    · exact List.nil_sublist _
    · exact .refl _

/-- A key no field of a command step claims is read back from the inline remainder. -/
theorem command_rem_lookup_other (m : Entries) (c : CommandStep) (h : parseCommand m = .ok c)
    (hm : (keysOf m).Nodup) (k : String) (hk : k ∉ commandKeys) :
    (c.rem.getD []).lookup k = m.lookup k ∧ ((c.rem.getD []).map (·.1)).Nodup := by
  obtain ⟨_, _, _, _, _, hrem⟩ := parseCommand_ok h
  simp only [commandKeys, List.mem_cons, List.not_mem_nil, or_false, not_or] at hk
  have hk1 : k ∉ ["commands", "command"] := by simp [hk]
  have hk2 : k ∉ claimKeys Gen.struct_CommandStep := by rw [claimKeys_cs]; simp [hk]
  refine ⟨?_, by rw [hrem]; exact nodup_keys_remMap _⟩
  rw [hrem, lookup_remMap (nodup_keys_remainder _ (nodup_keys_remainder _ hm)),
    lookup_remainder_of_not_claim hk2, lookup_rest hk1]

theorem command_other_keys_preserved (m : Entries) (c : CommandStep) (h : parseCommand m = .ok c)
    (hm : (keysOf m).Nodup) (k : String) (hk : k ∉ commandKeys) :
    ∃ kvs, mCommand c = .umap kvs ∧ kvs.lookup k = m.lookup k ∧ (kvs.map (·.1)).Nodup := by
  obtain ⟨hkey, hn⟩ := command_rem_lookup_other m c h hm k hk
  have hk3 : k ∉ ["key", "label", "command", "plugins", "env", "signature", "matrix", "cache"] := by
    simp only [commandKeys, List.mem_cons, List.not_mem_nil, or_false, not_or] at hk
    simp [hk]
  obtain ⟨o, ho, hsub⟩ := mCommand_outline c
  rw [← hkey, ho]
  exact inlineFriendly_lookup o c.rem k (fun hx => hk3 (hsub.subset hx)) hn

/-! ## Plugins -/

theorem pluginsOfMap_ne_none (kvs : List (String × Val)) : ∀ p ∈ pluginsOfMap kvs, p ≠ none := by
  intro p hp
  obtain ⟨_, _, rfl⟩ := List.mem_map.1 hp
  exact Option.some_ne_none _

theorem pluginsElems_ne_none : (xs : List Val) → (l : List (Option Plugin)) → pluginsElems xs = .ok l →
    ∀ p ∈ l, p ≠ none
  | [], l, h => by
    cases h
    exact fun _ hp => nomatch hp
  | x :: r, l, h => by
    cases x <;> try (solve | simp [pluginsElems] at h)
    case str s =>
      simp only [pluginsElems, map_ok_iff] at h
      obtain ⟨l', hr, rfl⟩ := h
      intro p hp
      rcases List.mem_cons.1 hp with hp | hp
      · simp [hp]
      · exact pluginsElems_ne_none r l' hr p hp
    case omap kvs =>
      simp only [pluginsElems, map_ok_iff] at h
      obtain ⟨l', hr, rfl⟩ := h
      intro p hp
      rcases List.mem_append.1 hp with hp | hp
      · exact pluginsOfMap_ne_none _ p hp
      · exact pluginsElems_ne_none r l' hr p hp

theorem mPlugins_eq (l : List (Option Plugin)) :
    mPlugins l = .seq (l.map fun
      | some p => Val.umap [(fullSource p.source,
          match p.config with | .umap [] => Val.null | .seq [] => .null | c => c)]
      | none => .null) := by
  unfold mPlugins
  congr 1
  apply List.map_congr_left
  intro p _
  cases p with
  | none => rfl
  | some p => rfl

theorem plugins_normal_form (v : Val) (l : List (Option Plugin)) (h : parsePlugins v = .ok (some l)) :
    mPlugins l = .seq (l.map fun
      | some p => Val.umap [(fullSource p.source,
          match p.config with | .umap [] => Val.null | .seq [] => .null | c => c)]
      | none => .null) ∧ ∀ p ∈ l, p ≠ none := by
  refine ⟨mPlugins_eq l, ?_⟩
  rcases (parsePlugins_cases h).2 with ⟨xs, _, hx⟩ | ⟨kvs, _, rfl⟩
  · exact pluginsElems_ne_none xs l hx
  · exact pluginsOfMap_ne_none kvs

theorem plugins_from_mapping (kvs : List (String × Val)) (hne : kvs ≠ []) :
    parsePlugins (.omap kvs) = .ok (some (kvs.map fun (k, v) => some { source := k, config := toMapRec v })) := by
  unfold parsePlugins
  have : kvs.isEmpty = false := by simpa using hne
  simp only [this]
  rfl

/-! ## Env entries and string lists -/

theorem ssElems_forall₂ : (kvs : List (String × Val)) → (l : List (String × String)) → ssElems kvs = .ok l →
    List.Forall₂ (fun kv e => e.1 = kv.1 ∧ strOf kv.2 = .ok e.2) kvs l
  | [], l, h => by
    cases h
    exact .nil
  | (k, v) :: r, l, h => by
    unfold ssElems at h
    cases hs : strOf v with
    | error e => simp [hs] at h
    | ok s =>
      simp only [hs, map_ok_iff] at h
      obtain ⟨l', hr, rfl⟩ := h
      exact .cons ⟨rfl, hs⟩ (ssElems_forall₂ r l' hr)

theorem env_scalars_strings (kvs : List (String × Val)) (l : List (String × String))
    (h : parseEnvOrdered (.omap kvs) = .ok (some l)) :
    List.Forall₂ (fun kv e => e.1 = kv.1 ∧ strOf kv.2 = .ok e.2) kvs l := by
  simp only [parseEnvOrdered, map_ok_iff, Option.some.injEq] at h
  obtain ⟨l', hr, rfl⟩ := h
  exact ssElems_forall₂ kvs _ hr

theorem keys_of_scalars_strings {kvs : List (String × Val)} {l : List (String × String)}
    (h : List.Forall₂ (fun kv e => e.1 = kv.1 ∧ strOf kv.2 = .ok e.2) kvs l) : l.map (·.1) = kvs.map (·.1) := by
  induction h with
  | nil => rfl
  | cons h _ ih => rw [List.map_cons, List.map_cons, h.1, ih]

theorem strsElems_length : (xs : List Val) → (l : List String) → strsElems xs = .ok l → l.length = xs.length
  | [], l, h => by
    cases h
    rfl
  | v :: r, l, h => by
    unfold strsElems at h
    cases hs : strOf v with
    | error e => simp [hs] at h
    | ok s =>
      simp only [hs, map_ok_iff] at h
      obtain ⟨l', hr, rfl⟩ := h
      rw [List.length_cons, List.length_cons, strsElems_length r l' hr]

/-! ## Step lists -/

/-- A pipeline written as a bare step list: the parsed steps and nothing else. -/
theorem parsePipeline_seq {xs : List Val} {p : Pipeline} {ws : List Warn} (h : parsePipeline (.seq xs) = .ok (p, ws)) :
    ∃ ss ws', parseSteps stepFuel xs = .ok (ss, ws') ∧ p = { steps := some ss, env := none, rem := none } := by
  unfold parsePipeline at h
  simp only at h
  cases hp : parseSteps stepFuel xs with
  | error e => simp [hp] at h
  | ok r =>
    simp only [hp, Except.ok.injEq, Prod.mk.injEq] at h
    exact ⟨r.1, r.2, rfl, h.1.symm⟩

theorem parseSteps_length (f : Nat) (xs : List Val) (ss : List Step) (ws : List Warn)
    (h : parseSteps f xs = .ok (ss, ws)) : ss.length = xs.length :=
  (forall₂_length (parseSteps_forall₂ h)).symm

theorem mSteps_length (ss : List Step) (js : List Val) (h : mSteps ss = .ok js) : js.length = ss.length :=
  (forall₂_length (mSteps_ok_iff.1 h)).symm

end GoPipeline.Parse
