/-
  C03, YAML leg — lemmas behind `Props/C03Y.lean`: the value tree handed to `yaml.Marshal`
  (`Model/MarshalY.lean`) for a parsed pipeline is the document's data in the same normal form as the
  JSON leg's (`Lemmas/Parse03.lean`), except at the places listed in the header of `Model/MarshalY.lean`.

  This file sits on the `Lemmas/Parse03.lean` side of the import graph (through `Lemmas/OrderY.lean`), whose
  reading of a struct level (`Order.struct_fields`, `two_fields`, `cmd_fields`) does the work here.

  The legs are compared bottom-up (adjustment, matrix, cache, signature, command step); where they differ the
  exact YAML shape is stated, and `legs_same_iff` says the listed differences are the only ones. The C03
  statements on the YAML value tree are what the parser guarantees about the typed step
  (`Lemmas/Parse03.lean`) read through `yCommand_parsed_fields`.
-/
import GoPipeline.Lemmas.OrderY
namespace GoPipeline.Parse
open GoPipeline GoPipeline.Pipe GoPipeline.Marshal GoPipeline.Unm GoPipeline.Roundtrip GoPipeline.Order
open GoPipeline.MarshalY

theorem declaredKeys_adj : declaredKeys Gen.struct_MatrixAdjustment = ["with", "skip"] := rfl
theorem declaredKeys_mx : declaredKeys Gen.struct_Matrix = ["setup", "adjustments"] := rfl
theorem declaredKeys_cache : declaredKeys Gen.struct_Cache = ["disabled", "name", "paths", "size"] := rfl
theorem declaredKeys_grp : declaredKeys Gen.struct_GroupStep = ["key", "group", "steps"] := rfl

theorem ySteps_ok_iff : ∀ {ss : List Step} {js : List Val},
    ySteps ss = .ok js ↔ List.Forall₂ (fun s j => yStep s = .ok j) ss js
  | [], js => by
    rw [ySteps_nil]
    constructor
    · intro h; cases h; exact .nil
    · intro h; cases h; rfl
  | s :: r, js => by
    rw [ySteps_cons]
    constructor
    · intro h
      split at h
      · cases h
      · rename_i v hv
        split at h
        · cases h
        · rename_i vs hvs
          cases h
          exact .cons hv (ySteps_ok_iff.1 hvs)
    · intro h
      cases h with
      | cons hv hvs => rw [hv, ySteps_ok_iff.2 hvs]

theorem ySteps_length (ss : List Step) (js : List Val) (h : ySteps ss = .ok js) : js.length = ss.length :=
  (forall₂_length (ySteps_ok_iff.1 h)).symm

/-! ## Where the legs agree and where they do not: adjustments, matrix, cache, signature -/

/-- No adjustment of the matrix carries a `skip` that `encoding/json`-style `omitempty` would drop
    (finding F11; `Roundtrip.emptyishSkip`). -/
def NoEmptyishSkip (mx : Matrix) : Prop :=
  ∀ l, mx.adjustments = some l → ∀ a, some a ∈ l → emptyishSkip a.skip = false

/-- A cache that is only disabled: `(*Cache).MarshalJSON` writes `false` for it. -/
def disabledOnly (k : Cache) : Bool :=
  k.disabled && k.name == "" && (k.paths.getD []).isEmpty && k.size == "" && (k.rem.getD []).isEmpty

/-- None of the three places where the two legs write different values for a command step is met. -/
def SameLegs (c : CommandStep) : Prop :=
  (∀ mx, c.matrix = some mx → NoEmptyishSkip mx) ∧
  (∀ k, c.cache = some k → disabledOnly k = false) ∧
  (∀ s, c.signature = some s → s.signedFields ≠ none)

/-- `encoding/json`-style `omitempty` drops what yaml.v3's drops, and the empty-ish values. -/
theorem isEmptyAny_eq_or (v : Val) : isEmptyAny v = (yIsZeroAny v || emptyishSkip v) := by
  cases v <;> rfl

theorem isEmptyAny_eq_yIsZeroAny {v : Val} (h : emptyishSkip v = false) : isEmptyAny v = yIsZeroAny v := by
  rw [isEmptyAny_eq_or, h, Bool.or_false]

theorem isEmptyAny_ne_yIsZeroAny {v : Val} (h : emptyishSkip v = true) : isEmptyAny v = true ∧ yIsZeroAny v = false := by
  refine ⟨by rw [isEmptyAny_eq_or, h, Bool.or_true], ?_⟩
  cases v <;> first | rfl | cases h

/-- The struct level of an adjustment, on both legs, `skip` being written or not (`b`). -/
theorem adj_fields (a : Adjustment) (b : Bool) (hf : Free Gen.struct_MatrixAdjustment a.rem) :
    let o := [("with", mWith a.with_)] ++ (if b then [] else [("skip", a.skip)])
    yStruct Gen.struct_MatrixAdjustment o a.rem = .ok (inlineFriendly o a.rem) ∧
    ∃ kvs, inlineFriendly o a.rem = .umap kvs ∧ kvs.lookup "with" = some (mWith a.with_) ∧
      kvs.lookup "skip" = if b then none else some a.skip := by
  have h := two_fields declaredKeys_adj (by simp) (mWith a.with_) (atMost_ite "skip" a.skip (p := b)) hf
  simpa [lookup_ite] using h

theorem yAdjustment_eq (a : Adjustment) (hf : Free Gen.struct_MatrixAdjustment a.rem)
    (hs : emptyishSkip a.skip = false) : yAdjustment a = .ok (mAdjustment a) := by
  unfold yAdjustment mAdjustment
  rw [isEmptyAny_eq_yIsZeroAny hs]
  exact (adj_fields a _ hf).1

theorem yAdjustments_eq : (l : List (Option Adjustment)) → AdjFree l →
    (∀ a, some a ∈ l → emptyishSkip a.skip = false) →
    yAdjustments l = .ok (l.map fun | none => .null | some a => mAdjustment a)
  | [], _, _ => rfl
  | none :: r, hf, hs => by
    have ih := yAdjustments_eq r (fun a ha => hf a (List.mem_cons_of_mem _ ha)) (fun a ha => hs a (List.mem_cons_of_mem _ ha))
    simp only [yAdjustments, ih, Except.map, List.map_cons]
  | some a :: r, hf, hs => by
    have ih := yAdjustments_eq r (fun a ha => hf a (List.mem_cons_of_mem _ ha)) (fun a ha => hs a (List.mem_cons_of_mem _ ha))
    simp only [yAdjustments, yAdjustment_eq a (hf a List.mem_cons_self) (hs a List.mem_cons_self), ih, Except.map,
      List.map_cons]

/-- The JSON leg drops an empty-ish `skip` (finding F11), the YAML leg keeps it. -/
theorem adjustment_skip_legs_differ (a : Adjustment) (hf : Free Gen.struct_MatrixAdjustment a.rem)
    (hs : emptyishSkip a.skip = true) :
    ∃ kj ky, mAdjustment a = .umap kj ∧ yAdjustment a = .ok (.umap ky) ∧
      kj.lookup "skip" = none ∧ ky.lookup "skip" = some a.skip := by
  obtain ⟨h1, h2⟩ := isEmptyAny_ne_yIsZeroAny hs
  obtain ⟨_, kj, a1, _, a2⟩ := adj_fields a true hf
  obtain ⟨e, ky, b1, _, b2⟩ := adj_fields a false hf
  refine ⟨kj, ky, ?_, ?_, a2, b2⟩
  · unfold mAdjustment
    rw [h1]
    exact a1
  · unfold yAdjustment
    rw [h2, ← b1]
    exact e

/-- The struct level of a matrix that is not simple, on both legs, the adjustments being encoded as `avs`. -/
theorem mx_fields (mx : Matrix) (avs : List Val) (hf : Free Gen.struct_Matrix mx.rem) :
    let o := [("setup", mSetup mx.setup)] ++
      (if (mx.adjustments.getD []).isEmpty then [] else [("adjustments", .seq avs)])
    yStruct Gen.struct_Matrix o mx.rem = .ok (inlineFriendly o mx.rem) ∧
    ∃ kvs, inlineFriendly o mx.rem = .umap kvs ∧ kvs.lookup "setup" = some (mSetup mx.setup) ∧
      kvs.lookup "adjustments" = if (mx.adjustments.getD []).isEmpty then none else some (.seq avs) := by
  have h := two_fields declaredKeys_mx (by simp) (mSetup mx.setup)
    (atMost_ite "adjustments" (.seq avs) (p := (mx.adjustments.getD []).isEmpty)) hf
  simpa [lookup_ite] using h

theorem yMatrix_eq (mx : Matrix) (hf : MatrixFree mx) (hs : NoEmptyishSkip mx) : yMatrix mx = .ok (mMatrix mx) := by
  unfold yMatrix mMatrix
  split
  · rfl
  · have ha : yAdjustments (mx.adjustments.getD []) =
        .ok ((mx.adjustments.getD []).map fun | none => .null | some a => mAdjustment a) := by
      cases hx : mx.adjustments with
      | none => rfl
      | some l => exact yAdjustments_eq l (hf.2 l hx) (hs l hx)
    simp only [ha]
    exact (mx_fields mx _ hf.1).1

/-- The four fields of a cache, each as it contributes to the outline. -/
def cacheParts (k : Cache) : List (List (String × Val)) :=
  [if k.disabled then [("disabled", .bool true)] else [],
   if k.name == "" then [] else [("name", .str k.name)],
   if (k.paths.getD []).isEmpty then [] else [("paths", strsV (k.paths.getD []))],
   if k.size == "" then [] else [("size", .str k.size)]]

theorem cacheOutline_eq (k : Cache) :
    (if k.disabled then [("disabled", .bool true)] else []) ++
      (if k.name == "" then [] else [("name", .str k.name)]) ++
      (if (k.paths.getD []).isEmpty then [] else [("paths", strsV (k.paths.getD []))]) ++
      (if k.size == "" then [] else [("size", .str k.size)]) = (cacheParts k).flatten := by
  simp [cacheParts]

/-- What the declared keys of a cache's value tree `kvs` hold. -/
def CacheFields (k : Cache) (kvs : List (String × Val)) : Prop :=
  kvs.lookup "disabled" = (if k.disabled then some (.bool true) else none) ∧
  kvs.lookup "name" = (if k.name = "" then none else some (.str k.name)) ∧
  kvs.lookup "paths" = (if (k.paths.getD []).isEmpty then none else some (strsV (k.paths.getD []))) ∧
  kvs.lookup "size" = (if k.size = "" then none else some (.str k.size))

theorem cache_fields (k : Cache) (hf : Free Gen.struct_Cache k.rem) :
    yStruct Gen.struct_Cache (cacheParts k).flatten k.rem = .ok (inlineFriendly (cacheParts k).flatten k.rem) ∧
    ∃ kvs, inlineFriendly (cacheParts k).flatten k.rem = .umap kvs ∧ CacheFields k kvs := by
  have h := struct_fields (parts := cacheParts k) declaredKeys_cache (by simp)
    (.cons (by split <;> simp [AtMost]) (.cons (atMost_ite _ _) (.cons (atMost_ite _ _) (.cons (atMost_ite _ _) .nil)))) hf
  simpa [CacheFields, cacheParts, lookup_ite] using h

theorem yCache_eq (k : Cache) (hf : Free Gen.struct_Cache k.rem) (hd : disabledOnly k = false) :
    yCache k = .ok (mCache k) := by
  unfold yCache mCache
  unfold disabledOnly at hd
  simp only [hd, Bool.false_eq_true, if_false, cacheOutline_eq]
  exact (cache_fields k hf).1

/-- The cache on the YAML leg is always a mapping of its non-empty fields (there is no `MarshalYAML`). -/
theorem cache_fields_yaml (k : Cache) (j : Val) (h : yCache k = .ok j) : ∃ kvs, j = .umap kvs ∧ CacheFields k kvs := by
  unfold yCache at h
  rw [cacheOutline_eq] at h
  obtain ⟨e, kvs, hk, hl⟩ := cache_fields k (yStruct_inv h).1
  rw [e, hk] at h
  cases h
  exact ⟨kvs, rfl, hl⟩

/-- The cache that is only disabled: `{disabled: true}` on the YAML leg, `false` on the JSON leg. -/
theorem cache_disabled_only (k : Cache) (hd : disabledOnly k = true) :
    yCache k = .ok (.umap [("disabled", .bool true)]) ∧ mCache k = .bool false := by
  unfold disabledOnly at hd
  simp only [Bool.and_eq_true, beq_iff_eq, List.isEmpty_iff] at hd
  obtain ⟨⟨⟨⟨h1, h2⟩, h3⟩, h4⟩, h5⟩ := hd
  constructor
  · unfold yCache
    simp [h1, h2, h3, h4, yStruct, h5, Marshal.umapOf, Marshal.umapInsert]
  · unfold mCache
    simp [h1, h2, h3, h4, h5]

theorem ySignature_eq (s : Signature) (h : s.signedFields ≠ none) : ySignature s = mSignature s := by
  unfold ySignature mSignature
  cases hs : s.signedFields with
  | none => exact absurd hs h
  | some l => rfl

/-- A signature with nil `signed_fields`: `[]` on the YAML leg, `null` on the JSON leg. -/
theorem signature_nil_fields (s : Signature) (h : s.signedFields = none) :
    ySignature s = .umap [("algorithm", .str s.algorithm), ("signed_fields", .seq []), ("value", .str s.value)] ∧
    mSignature s = .umap [("algorithm", .str s.algorithm), ("signed_fields", .null), ("value", .str s.value)] := by
  unfold ySignature mSignature
  rw [h]
  exact ⟨rfl, rfl⟩

/-! ## The two legs of a command step -/

theorem yCommand_eq_json (c : CommandStep) (hf : CmdFree c) (hs : SameLegs c) : yCommand c = .ok (mCommand c) := by
  obtain ⟨hs1, hs2, hs3⟩ := hs
  have h1 : yMatrixEntry c = .ok (mMatrixEntry c) := by
    unfold yMatrixEntry mMatrixEntry
    cases hx : c.matrix with
    | none => rfl
    | some mx => simp only [yMatrix_eq mx (hf.2.1 mx hx) (hs1 mx hx), Except.map]
  have h2 : yCacheEntry c = .ok (mCacheEntry c) := by
    unfold yCacheEntry mCacheEntry
    cases hx : c.cache with
    | none => rfl
    | some k => simp only [yCache_eq k (hf.2.2 k hx) (hs2 k hx), Except.map]
  have h3 : ySigEntry c = mSigEntry c := by
    unfold ySigEntry mSigEntry
    cases hx : c.signature with
    | none => rfl
    | some s => simp only [ySignature_eq s (hs3 s hx)]
  rw [yCommand_of h1 h2, h3, mCommand_eq]
  exact (cmd_fields c hf.1 (mSigEntry_atMost c) (mMatrixEntry_atMost c) (mCacheEntry_atMost c)).1

theorem ySigEntry_lookup (c : CommandStep) : (ySigEntry c).lookup "signature" = c.signature.map ySignature := by
  unfold ySigEntry
  cases c.signature <;> simp [List.lookup]

/-! ## Parsed command steps -/

/-- A parsed command step has a YAML value tree, a Go map, and these are its declared keys. -/
theorem yCommand_parsed_fields {m : Entries} {c : CommandStep} (h : parseCommand m = .ok c) :
    ∃ kvs mv cv, yCommand c = .ok (.umap kvs) ∧ CmdFields c (ySigEntry c) mv cv kvs := by
  obtain ⟨j, hj⟩ := yCommand_total_of_parse m c h
  obtain ⟨kvs, mv, cv, rfl, _, _, hf⟩ := yCommand_fields hj
  exact ⟨kvs, mv, cv, hj, hf⟩

theorem yCommand_parsed (m : Entries) (c : CommandStep) (h : parseCommand m = .ok c) :
    ∃ kvs, yCommand c = .ok (.umap kvs) := by
  obtain ⟨kvs, _, _, hj, _⟩ := yCommand_parsed_fields h
  exact ⟨kvs, hj⟩

/-! ## Plugins and step env -/

theorem fieldOf_plugins (r : Entries) : fieldOf (taken r Gen.struct_CommandStep) "Plugins" = r.lookup "plugins" :=
  (fieldOf_taken_find_key (fs := Gen.struct_CommandStep) (n := "Plugins") commandStep_names_nodup rfl rfl rfl :)

theorem fieldOf_env (r : Entries) : fieldOf (taken r Gen.struct_CommandStep) "Env" = r.lookup "env" :=
  (fieldOf_taken_find_key (fs := Gen.struct_CommandStep) (n := "Env") commandStep_names_nodup rfl rfl rfl :)

/-- The plugin list of a parsed command step, on both legs: the ordered list of single-entry objects keyed by
    canonical source, empty configs as null. -/
theorem plugins_normal_form_yaml (m : Entries) (c : CommandStep) (h : parseCommand m = .ok c) (v : Val)
    (l : List (Option Plugin)) (hv : m.lookup "plugins" = some v) (hl : parsePlugins v = .ok (some l)) :
    ∃ ky kj, yCommand c = .ok (.umap ky) ∧ mCommand c = .umap kj ∧
      ky.lookup "plugins" = some (.seq (l.map fun
        | some p => Val.umap [(fullSource p.source,
            match p.config with | .umap [] => Val.null | .seq [] => .null | c => c)]
        | none => .null)) ∧
      kj.lookup "plugins" = ky.lookup "plugins" ∧ ∀ p ∈ l, p ≠ none := by
  obtain ⟨_, _, _, _, _, _, hpl, _⟩ := parseCommand_fields h
  have hf : fieldOf (taken (remainder m Gen.struct_CommandStep_UnmarshalOrdered_local0) Gen.struct_CommandStep)
      "Plugins" = some v := by
    rw [fieldOf_plugins, lookup_rest (by simp), hv]
  rw [optField_some hf, hl] at hpl
  have hcp : c.plugins = some l := (Except.ok.inj hpl).symm
  obtain ⟨hnf, hnn⟩ := plugins_normal_form v l hl
  obtain ⟨kj, hkj, fj⟩ := mCommand_fields c (parseCommand_free h).1
  obtain ⟨ky, _, _, hj, fy⟩ := yCommand_parsed_fields h
  refine ⟨ky, kj, hj, hkj, ?_, by rw [fj.plugins, fy.plugins], hnn⟩
  rw [fy.plugins, hcp, Option.getD_some, if_neg (by simpa using (parsePlugins_cases hl).1), hnf]
  rfl

/-! ## Matrix and cache shapes -/

/-- The matrix on the YAML leg: the simple matrix is its setup (`MatrixSetup.MarshalYAML`, the same value as
    on the JSON leg); otherwise a mapping whose `setup` is that same value and whose `adjustments`, when there
    are any, is the list of encoded adjustments. -/
theorem matrix_fields_yaml (mx : Matrix) (j : Val) (h : yMatrix mx = .ok j) :
    (isSimple mx = true → j = mSetup mx.setup ∧ mMatrix mx = mSetup mx.setup) ∧
    (isSimple mx = false → ∃ kvs avs, j = .umap kvs ∧ yAdjustments (mx.adjustments.getD []) = .ok avs ∧
      kvs.lookup "setup" = some (mSetup mx.setup) ∧
      kvs.lookup "adjustments" = (if (mx.adjustments.getD []).isEmpty then none else some (.seq avs))) := by
  unfold yMatrix at h
  constructor
  · intro hs
    rw [if_pos hs] at h
    exact ⟨(Except.ok.inj h).symm, by unfold mMatrix; rw [if_pos hs]⟩
  · intro hs
    rw [if_neg (by rw [hs]; simp)] at h
    simp only at h
    split at h
    · cases h
    · rename_i avs ha
      obtain ⟨e, kvs, hk, h1, h2⟩ := mx_fields mx avs (yStruct_inv h).1
      rw [e, hk] at h
      cases h
      exact ⟨kvs, avs, rfl, ha, h1, h2⟩

theorem matrix_fields_json (mx : Matrix) (hf : Free Gen.struct_Matrix mx.rem) (hs : isSimple mx = false) :
    ∃ kvs, mMatrix mx = .umap kvs ∧ kvs.lookup "setup" = some (mSetup mx.setup) ∧
      kvs.lookup "adjustments" = (if (mx.adjustments.getD []).isEmpty then none
        else some (.seq ((mx.adjustments.getD []).map fun | none => .null | some a => mAdjustment a))) := by
  unfold mMatrix
  rw [if_neg (by rw [hs]; simp)]
  exact (mx_fields mx _ hf).2

/-! ## The three side conditions are necessary: outside them the legs do differ -/

/-- One adjustment with an empty-ish `skip` makes the two encoded adjustment lists differ. -/
theorem yAdjustments_ne : (l : List (Option Adjustment)) → (avs : List Val) → AdjFree l →
    yAdjustments l = .ok avs → (a : Adjustment) → some a ∈ l → emptyishSkip a.skip = true →
    avs ≠ l.map fun | none => .null | some a => mAdjustment a
  | [], _, _, _, a, ha, _ => by simp at ha
  | none :: r, avs, hf, h, a, ha, hs => by
    simp only [yAdjustments, map_ok_iff] at h
    obtain ⟨avs', hr, rfl⟩ := h
    have ha' : some a ∈ r := by
      rcases List.mem_cons.1 ha with e | e
      · cases e
      · exact e
    intro heq
    simp only [List.map_cons, List.cons.injEq, true_and] at heq
    exact yAdjustments_ne r avs' (fun b hb => hf b (List.mem_cons_of_mem _ hb)) hr a ha' hs heq
  | some b :: r, avs, hf, h, a, ha, hs => by
    simp only [yAdjustments] at h
    split at h
    · cases h
    · rename_i v hv
      rw [map_ok_iff] at h
      obtain ⟨avs', hr, rfl⟩ := h
      intro heq
      simp only [List.map_cons, List.cons.injEq] at heq
      obtain ⟨hv', htl⟩ := heq
      rcases List.mem_cons.1 ha with e | e
      · simp only [Option.some.injEq] at e
        subst e
        obtain ⟨kj, ky, e1, e2, n1, n2⟩ := adjustment_skip_legs_differ a (hf a List.mem_cons_self) hs
        rw [e2] at hv
        have : Val.umap ky = Val.umap kj := by rw [← e1, ← hv']; exact (Except.ok.inj hv)
        rw [Val.umap.inj this, n1] at n2
        cases n2
      · exact yAdjustments_ne r avs' (fun b hb => hf b (List.mem_cons_of_mem _ hb)) hr a e hs htl

theorem yMatrix_ne (mx : Matrix) (hf : MatrixFree mx)
    (l : List (Option Adjustment)) (hl : mx.adjustments = some l) (a : Adjustment) (ha : some a ∈ l)
    (hs : emptyishSkip a.skip = true) : yMatrix mx ≠ .ok (mMatrix mx) := by
  intro heq
  have hne : ((mx.adjustments.getD []).isEmpty) = false := by
    rw [hl]
    cases l with
    | nil => simp at ha
    | cons x t => rfl
  have hsimple : isSimple mx = false := by
    unfold isSimple
    rw [hne]
    simp
  obtain ⟨ky, avs, e1, e2, _, e4⟩ := (matrix_fields_yaml mx _ heq).2 hsimple
  obtain ⟨kj, f1, _, f3⟩ := matrix_fields_json mx hf.1 hsimple
  have hk : kj = ky := by rw [f1] at e1; exact Val.umap.inj e1
  rw [← hk, f3, hne] at e4
  simp only [Bool.false_eq_true, if_false, Option.some.injEq, Val.seq.injEq] at e4
  rw [hl] at e2 e4
  exact yAdjustments_ne l avs (hf.2 l hl) e2 a ha hs e4.symm

/-- If the two legs hand over the same value tree for a command step, they do so field by field. -/
theorem legs_eq_fields (c : CommandStep) (hf : Free Gen.struct_CommandStep c.rem) (heq : yCommand c = .ok (mCommand c)) :
    (∀ s, c.signature = some s → ySignature s = mSignature s) ∧
    (∀ mx, c.matrix = some mx → yMatrix mx = .ok (mMatrix mx)) ∧
    (∀ k, c.cache = some k → yCache k = .ok (mCache k)) := by
  obtain ⟨kj, hkj, fj⟩ := mCommand_fields c hf
  obtain ⟨ky, mv, cv, hjy, hmv, hcv, fy⟩ := yCommand_fields heq
  cases hkj.symm.trans hjy
  refine ⟨fun s hx => ?_, fun mx hx => ?_, fun k hx => ?_⟩
  · simpa [ySigEntry, mSigEntry, hx, List.lookup] using fy.signature.symm.trans fj.signature
  · unfold yMatrixEntry at hmv
    rw [hx] at hmv
    obtain ⟨v, hv, rfl⟩ := map_ok_iff.1 hmv
    have e := fy.matrix.symm.trans fj.matrix
    simp only [mMatrixEntry, hx, List.lookup, beq_self_eq_true, Option.some.injEq] at e
    rw [hv, e]
  · unfold yCacheEntry at hcv
    rw [hx] at hcv
    obtain ⟨v, hv, rfl⟩ := map_ok_iff.1 hcv
    have e := fy.cache.symm.trans fj.cache
    simp only [mCacheEntry, hx, List.lookup, beq_self_eq_true, Option.some.injEq] at e
    rw [hv, e]

/-- For a parsed command step the two legs hand over the identical value tree exactly when none of the three
    listed differences is met. -/
theorem legs_same_iff (m : Entries) (c : CommandStep) (h : parseCommand m = .ok c) :
    yCommand c = .ok (mCommand c) ↔ SameLegs c := by
  constructor
  · intro heq
    obtain ⟨hf, hmx, hca⟩ := parseCommand_free h
    obtain ⟨e1, e2, e3⟩ := legs_eq_fields c hf heq
    refine ⟨?_, ?_, ?_⟩
    · intro mx hx l hl a ha
      cases hs : emptyishSkip a.skip with
      | false => rfl
      | true => exact absurd (e2 mx hx) (yMatrix_ne mx (hmx mx hx) l hl a ha hs)
    · intro k hx
      cases hd : disabledOnly k with
      | false => rfl
      | true =>
        obtain ⟨d1, d2⟩ := cache_disabled_only k hd
        have := e3 k hx
        rw [d1, d2] at this
        simp at this
    · intro s hx hnone
      obtain ⟨d1, d2⟩ := signature_nil_fields s hnone
      have := e1 s hx
      rw [d1, d2] at this
      simp at this
  · exact yCommand_eq_json c (parseCommand_free h)

end GoPipeline.Parse
