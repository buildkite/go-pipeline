/-
  C04 / C12 (scope) — lemmas about the interpolation model (`Model/Interp.lean`).

  Every walker is characterised twice: `*_eq`, for a transformer that never fails (`pureTf E g`) it returns
  the specification `map* g`; `*_errFrom`, every error is the error of one of the strings handed to the
  transformer.  The `*_errFrom` proofs step through the walker and the strings list together: at each
  `match a with | .error e => .error e | .ok x => …` the error branch is settled by the lemma for `a`.
  The two container walks are described for an arbitrary outcome `w` of the nested values, collisions
  included; the collision-free ordered walk is the case where every entry survives (`interpOMap_fresh`).

  The hypothesis on an ordered mapping is `keysFresh`; distinct images alone (`keysNoCollide` of the
  model) do not suffice (`Props/C04.lean`, evaluated at the end of this file).  Go maps need none.
-/
import GoPipeline.Model.Interp
namespace GoPipeline.Interp
open GoPipeline GoPipeline.Pipe

/-- A transformer that never fails: `g` is "the single-pass expansion of a string". -/
def pureTf (E : Type) (g : String → String) : String → Except E String := fun s => .ok (g s)

variable {E : Type}

/-! ## The model's collision predicates with `keysFresh` at every ordered-map node -/

/-- Images pairwise distinct, and a renamed key is fresh for the mapping it lives in. -/
def keysFresh (g : String → String) (ks : List String) : Prop :=
  (ks.map g).Nodup ∧ ∀ k ∈ ks, g k = k ∨ g k ∉ ks

mutual
  def NoCollideVal' (g : String → String) : Val → Prop
    | .seq xs => NoCollideList' g xs
    | .omap kvs => keysFresh g (kvs.map (·.1)) ∧ NoCollideKVs' g kvs
    | .umap kvs => NoCollideKVs' g kvs
    | _ => True
  def NoCollideList' (g : String → String) : List Val → Prop
    | [] => True
    | x :: r => NoCollideVal' g x ∧ NoCollideList' g r
  def NoCollideKVs' (g : String → String) : List (String × Val) → Prop
    | [] => True
    | (_, v) :: r => NoCollideVal' g v ∧ NoCollideKVs' g r
end

def NoCollideUMapV' (g : String → String) : UMap Val → Prop
  | none => True
  | some kvs => NoCollideKVs' g kvs

def NoCollideAdj' (g : String → String) (a : Adjustment) : Prop := NoCollideVal' g a.skip ∧ NoCollideUMapV' g a.rem

def NoCollideMatrix' (g : String → String) (m : Matrix) : Prop :=
  (∀ l, m.adjustments = some l → ∀ a, some a ∈ l → NoCollideAdj' g a) ∧ NoCollideUMapV' g m.rem

def NoCollideCommand' (g : String → String) (c : CommandStep) : Prop :=
  (∀ l, c.plugins = some l → ∀ p, some p ∈ l → NoCollideVal' g p.config) ∧
  (∀ m, c.matrix = some m → NoCollideMatrix' g m) ∧
  (∀ k, c.cache = some k → NoCollideUMapV' g k.rem) ∧
  NoCollideUMapV' g c.rem

mutual
  def NoCollideStep' (g : String → String) : Step → Prop
    | .command c => NoCollideCommand' g c
    | .wait _ c => NoCollideUMapV' g c
    | .input _ c => NoCollideUMapV' g c
    | .trigger c => NoCollideUMapV' g c
    | .group _ _ ss r => (match ss with | none => True | some l => NoCollideSteps' g l) ∧ NoCollideUMapV' g r
    | .unknown v => NoCollideVal' g v
  def NoCollideSteps' (g : String → String) : List Step → Prop
    | [] => True
    | s :: r => NoCollideStep' g s ∧ NoCollideSteps' g r
end

/-! ## `Except` plumbing -/

theorem map_eq_error {α β : Type} {f : α → β} {x : Except E α} {e : E} (h : x.map f = .error e) :
    x = .error e := by
  cases x <;> simp_all [Except.map]

theorem map_eq_ok {α β : Type} {f : α → β} {x : Except E α} {b : β} (h : x.map f = .ok b) :
    ∃ a, x = .ok a ∧ f a = b := by
  cases x <;> simp_all [Except.map]

theorem ok_of_no_error {α : Type} {x : Except E α} (h : ∀ e, x ≠ .error e) : ∃ a, x = .ok a := by
  cases x with
  | error e => exact absurd rfl (h e)
  | ok a => exact ⟨a, rfl⟩

/-- Every result of `a` satisfies `P`. -/
def OkAll {α : Type} (P : α → Prop) (a : Except E α) : Prop := ∀ x, a = .ok x → P x

namespace OkAll
variable {α β : Type} {P : α → Prop}

theorem error {e : E} : OkAll P (.error e) := nofun

theorem ok {x : α} (h : P x) : OkAll P (.ok x : Except E α) := fun _ h' => Except.ok.inj h' ▸ h

theorem map {f : α → β} {Q : β → Prop} {a : Except E α} (h : OkAll (fun x => Q (f x)) a) : OkAll Q (a.map f) :=
  fun _ hy => by obtain ⟨x, hx, rfl⟩ := map_eq_ok hy; exact h x hx

/-- A step that yields a string, then the rest of the walk. -/
theorem bindStr {a : Except E String} {k : String → Except E α} (hk : ∀ x, OkAll P (k x)) :
    OkAll P (match a with | .error e => .error e | .ok x => k x) := by
  cases a with
  | error => exact .error
  | ok x => exact hk x

end OkAll

/-- Every error of `a` is the error `tf` gives on one of the strings `l`. -/
def ErrFrom (tf : String → Except E String) (l : List String) {α : Type} (a : Except E α) : Prop :=
  ∀ e, a = .error e → ∃ x ∈ l, tf x = .error e

namespace ErrFrom
variable {tf : String → Except E String} {α β : Type} {s : String} {l l₁ l₂ : List String}
  {a : Except E α} {r : Except E β} {e : E}

theorem ok {x : α} : ErrFrom tf l (.ok x) := fun _ h => nomatch h

theorem single (s : String) : ErrFrom tf [s] (tf s) := fun _ h => ⟨s, List.mem_singleton_self s, h⟩

theorem map {f : α → β} (h : ErrFrom tf l a) : ErrFrom tf l (a.map f) := fun e he => h e (map_eq_error he)

theorem mono (h : ErrFrom tf l₁ r) (hs : l₁ ⊆ l₂) : ErrFrom tf l₂ r :=
  fun e he => (h e he).imp fun _ hx => ⟨hs hx.1, hx.2⟩

theorem tail (h : ErrFrom tf l r) : ErrFrom tf (s :: l) r := h.mono (List.subset_cons_self _ _)

theorem inl (h : ErrFrom tf l₁ r) : ErrFrom tf (l₁ ++ l₂) r := h.mono (List.subset_append_left _ _)

theorem inr (h : ErrFrom tf l₂ r) : ErrFrom tf (l₁ ++ l₂) r := h.mono (List.subset_append_right _ _)

/-- The error branch of `match a with | .error e => .error e | .ok x => …`. -/
theorem of_eq (h : ErrFrom tf l a) (he : a = .error e) : ErrFrom tf l (.error e : Except E β) :=
  fun _ he' => Except.error.inj he' ▸ h e he

theorem head (h : tf s = .error e) : ErrFrom tf (s :: l) (.error e : Except E β) :=
  ((ErrFrom.single s).of_eq h).inl

/-- One string handed to the transformer, then the rest of the walk. -/
theorem bindStr {k : String → Except E β} (hk : ∀ x, ErrFrom tf l (k x)) :
    ErrFrom tf (s :: l) (match tf s with | .error e => .error e | .ok x => k x) := by
  cases h : tf s with
  | error => exact .head h
  | ok x => exact (hk x).tail

/-- An optional list of strings (`interpCache`, `interpSetupAux`), then the rest of the walk.  It is stated for
    this one result type: a `match` of the model only unifies with a `match` over the same type. -/
theorem bindOptStrs {a : Except E (Option (List String))} {k : Option (List String) → Except E β}
    (ha : ErrFrom tf l₁ a) (hk : ∀ x, ErrFrom tf l₂ (k x)) :
    ErrFrom tf (l₁ ++ l₂) (match a with | .error e => .error e | .ok x => k x) := by
  cases h : a with
  | error => exact (ha.of_eq h).inl
  | ok x => exact (hk x).inr

theorem optM {f : α → Except E α} {o : Option α} (h : ∀ a, o = some a → ErrFrom tf l (f a)) :
    ErrFrom tf l (optM f o) := by
  cases o with
  | none => exact .ok
  | some a => exact (h a rfl).map

theorem ok_of_forall (h : ErrFrom tf l a) (hl : ∀ x ∈ l, ∃ y, tf x = .ok y) : ∃ x, a = .ok x :=
  ok_of_no_error fun e he => by
    obtain ⟨x, hx, hxe⟩ := h e he
    obtain ⟨y, hy⟩ := hl x hx
    cases hy.symm.trans hxe

end ErrFrom

/-! ## Which entries the ordered walk keeps (transformer that never fails, collisions included)

  Two passes describe the result.  `visited`: the entries the range reaches — an entry is skipped
  when an earlier *visited* entry was renamed onto its key.  `lastPerKey`: of the visited entries
  mapped to the same new key only the last one is left (a rename drops whatever has that name).
  Everything here is about lists of entries with arbitrary values; the walk itself comes after. -/

section Walk
variable {α : Type}

/-- The entries the range cursor reaches, given the keys `dead` already removed ahead of it. -/
def visitedFrom (g : String → String) (dead : List String) : List (String × α) → List (String × α)
  | [] => []
  | (k, v) :: rest =>
    if dead.contains k then visitedFrom g dead rest
    else (k, v) :: visitedFrom g (if g k == k then dead else g k :: dead) rest

/-- The keys removed ahead of the cursor once it has passed `l`. -/
def deadFrom (g : String → String) (dead : List String) : List (String × α) → List String
  | [] => dead
  | (k, _) :: rest =>
    if dead.contains k then deadFrom g dead rest
    else deadFrom g (if g k == k then dead else g k :: dead) rest

def visited (g : String → String) (kvs : List (String × α)) : List (String × α) := visitedFrom g [] kvs

/-- Keep an entry iff no later entry is mapped to the same new key. -/
def lastPerKey (g : String → String) : List (String × α) → List (String × α)
  | [] => []
  | (k, v) :: rest =>
    if rest.any (fun q => g q.1 == g k) then lastPerKey g rest else (k, v) :: lastPerKey g rest

/-- The input entries whose images make up the result of the ordered walk. -/
def survivors (g : String → String) (kvs : List (String × α)) : List (String × α) :=
  lastPerKey g (visited g kvs)

theorem visitedFrom_sublist (g : String → String) : ∀ (l : List (String × α)) (dead : List String),
    (visitedFrom g dead l).Sublist l
  | [], _ => by simp [visitedFrom]
  | (k, v) :: rest, dead => by
    unfold visitedFrom
    split
    · exact (visitedFrom_sublist g rest dead).cons _
    · exact (visitedFrom_sublist g rest _).cons_cons _

theorem lastPerKey_sublist (g : String → String) : ∀ (l : List (String × α)), (lastPerKey g l).Sublist l
  | [] => by simp [lastPerKey]
  | (k, v) :: rest => by
    unfold lastPerKey
    split
    · exact (lastPerKey_sublist g rest).cons _
    · exact (lastPerKey_sublist g rest).cons_cons _

theorem survivors_sublist (g : String → String) (kvs : List (String × α)) : (survivors g kvs).Sublist kvs :=
  (lastPerKey_sublist g _).trans (visitedFrom_sublist g kvs [])

theorem visitedFrom_append (g : String → String) : ∀ (l₁ l₂ : List (String × α)) (dead : List String),
    visitedFrom g dead (l₁ ++ l₂) = visitedFrom g dead l₁ ++ visitedFrom g (deadFrom g dead l₁) l₂
  | [], _, _ => by simp [visitedFrom, deadFrom]
  | (k, v) :: rest, l₂, dead => by
    simp only [List.cons_append, visitedFrom, deadFrom]
    split
    · exact visitedFrom_append g rest l₂ dead
    · rw [visitedFrom_append g rest l₂ _]; simp

theorem lastPerKey_keys_nodup (g : String → String) : ∀ (l : List (String × α)),
    ((lastPerKey g l).map (fun p => g p.1)).Nodup
  | [] => by simp [lastPerKey]
  | (k, v) :: rest => by
    unfold lastPerKey
    split
    · exact lastPerKey_keys_nodup g rest
    · rename_i h
      simp only [List.map_cons, List.nodup_cons]
      refine ⟨?_, lastPerKey_keys_nodup g rest⟩
      intro hm
      obtain ⟨q, hq, hqe⟩ := List.mem_map.1 hm
      apply h
      rw [List.any_eq_true]
      exact ⟨q, (lastPerKey_sublist g rest).subset hq, by simpa using hqe⟩

theorem lastPerKey_append (g : String → String) : ∀ (l₁ l₂ : List (String × α)),
    lastPerKey g (l₁ ++ l₂) =
      (lastPerKey g l₁).filter (fun p => !l₂.any (fun q => g q.1 == g p.1)) ++ lastPerKey g l₂
  | [], _ => by simp [lastPerKey]
  | (k, v) :: rest, l₂ => by
    simp only [List.cons_append, lastPerKey, List.any_append]
    cases h1 : rest.any (fun q => g q.1 == g k) with
    | true => simpa using lastPerKey_append g rest l₂
    | false =>
      cases h2 : l₂.any (fun q => g q.1 == g k) with
      | true =>
        simp only [Bool.false_or, if_true, Bool.false_eq_true, if_false]
        rw [List.filter_cons_of_neg (by simp [h2])]
        exact lastPerKey_append g rest l₂
      | false =>
        simp only [Bool.false_or, Bool.false_eq_true, if_false]
        rw [List.filter_cons_of_pos (by simp [h2]), lastPerKey_append g rest l₂]
        simp

theorem lookup_lastPerKey {β : Type} (g : String → String) (w : α → β) (k' : String) :
    ∀ (l : List (String × α)),
      ((lastPerKey g l).map (fun p => (g p.1, w p.2))).lookup k' =
        (l.reverse.find? (fun p => g p.1 == k')).map (fun p => w p.2)
  | [] => by simp [lastPerKey]
  | (k, v) :: rest => by
    have ih := lookup_lastPerKey g w k' rest
    simp only [List.reverse_cons, List.find?_append, lastPerKey]
    cases hany : rest.any (fun q => g q.1 == g k) with
    | true =>
      simp only [if_true]
      rw [ih]
      by_cases hk : g k = k'
      · subst hk
        obtain ⟨q, hq, hqe⟩ := List.any_eq_true.1 hany
        have : (rest.reverse.find? (fun p => g p.1 == g k)).isSome := by
          rw [List.find?_isSome]
          exact ⟨q, List.mem_reverse.2 hq, hqe⟩
        obtain ⟨r, hr⟩ := Option.isSome_iff_exists.1 this
        simp [hr]
      · have hb : (g k == k') = false := by simpa using hk
        simp [hb]
    | false =>
      simp only [Bool.false_eq_true, if_false, List.map_cons, List.lookup_cons]
      by_cases hk : g k = k'
      · subst hk
        have hnone : rest.reverse.find? (fun p => g p.1 == g k) = none := by
          rw [List.find?_eq_none]
          intro q hq hqe
          have : rest.any (fun q => g q.1 == g k) = true :=
            List.any_eq_true.2 ⟨q, List.mem_reverse.1 hq, hqe⟩
          rw [hany] at this
          cases this
        simp [hnone]
      · have hb : (g k == k') = false := by simpa using hk
        have hb' : (k' == g k) = false := by simpa using fun e : k' = g k => hk e.symm
        simp [hb, hb', ih]

theorem mem_visitedFrom_iff (g : String → String) (k : String) (v : α) (post : List (String × α)) :
    ∀ (pre : List (String × α)) (dead : List String),
      ((pre ++ (k, v) :: post).map (·.1)).Nodup →
      ((k, v) ∈ visitedFrom g dead (pre ++ (k, v) :: post) ↔
        k ∉ dead ∧ ∀ p ∈ visitedFrom g dead pre, g p.1 = p.1 ∨ g p.1 ≠ k)
  | [], dead, hnd => by
    have hnotin : (k, v) ∉ post := by
      intro hm
      simp only [List.nil_append, List.map_cons, List.nodup_cons] at hnd
      exact hnd.1 (List.mem_map.2 ⟨(k, v), hm, rfl⟩)
    simp only [List.nil_append, visitedFrom]
    cases hd : dead.contains k with
    | true =>
      have hkd : k ∈ dead := by simpa using hd
      simp only [if_true]
      constructor
      · intro hm; exact absurd ((visitedFrom_sublist g post dead).subset hm) hnotin
      · intro h; exact absurd hkd h.1
    | false =>
      have hkd : k ∉ dead := by simpa using hd
      simp [hkd]
  | (k0, v0) :: pre, dead, hnd => by
    have hnd' : ((pre ++ (k, v) :: post).map (·.1)).Nodup := by
      simp only [List.cons_append, List.map_cons, List.nodup_cons] at hnd
      exact hnd.2
    have hne : k ≠ k0 := by
      simp only [List.cons_append, List.map_cons, List.nodup_cons, List.map_append, List.mem_append,
        List.mem_cons, not_or] at hnd
      exact fun e => hnd.1.2.1 e.symm
    simp only [List.cons_append, visitedFrom]
    cases hd : dead.contains k0 with
    | true =>
      simp only [if_true]
      exact mem_visitedFrom_iff g k v post pre dead hnd'
    | false =>
      simp only [Bool.false_eq_true, if_false, List.mem_cons, Prod.mk.injEq, hne, false_and, false_or]
      rw [mem_visitedFrom_iff g k v post pre _ hnd']
      by_cases hg : g k0 = k0
      · have hb : (g k0 == k0) = true := by simpa using hg
        simp only [hb, if_true]
        simp only [forall_eq_or_imp, hg, true_or, true_and]
      · have hb : (g k0 == k0) = false := by simpa using hg
        simp only [hb, Bool.false_eq_true, if_false]
        simp only [List.mem_cons, not_or, forall_eq_or_imp, hg, false_or]
        constructor
        · rintro ⟨⟨h1, h2⟩, h3⟩; exact ⟨h2, fun e => h1 e.symm, h3⟩
        · rintro ⟨h2, h1, h3⟩; exact ⟨⟨fun e => h1 e.symm, h2⟩, h3⟩

theorem lastPerKey_eq_self_iff (g : String → String) : ∀ (l : List (String × α)),
    lastPerKey g l = l ↔ (l.map (fun p => g p.1)).Nodup
  | [] => by simp [lastPerKey]
  | (k, v) :: rest => by
    have ih := lastPerKey_eq_self_iff g rest
    simp only [lastPerKey, List.map_cons, List.nodup_cons]
    cases hany : rest.any (fun q => g q.1 == g k) with
    | true =>
      simp only [if_true]
      constructor
      · intro h
        have := (lastPerKey_sublist g rest).length_le
        rw [h] at this
        simp at this
        omega
      · rintro ⟨h, _⟩
        obtain ⟨q, hq, hqe⟩ := List.any_eq_true.1 hany
        exact absurd (List.mem_map.2 ⟨q, hq, by simpa using hqe⟩) h
    | false =>
      simp only [Bool.false_eq_true, if_false, List.cons.injEq, true_and, ih]
      constructor
      · intro h
        refine ⟨fun hm => ?_, h⟩
        obtain ⟨q, hq, hqe⟩ := List.mem_map.1 hm
        have : rest.any (fun q => g q.1 == g k) = true := List.any_eq_true.2 ⟨q, hq, by simpa using hqe⟩
        rw [hany] at this
        cases this
      · exact fun h => h.2

theorem visitedFrom_eq_self_iff (g : String → String) : ∀ (l : List (String × α)) (dead : List String),
    visitedFrom g dead l = l ↔
      (∀ p ∈ l, p.1 ∉ dead) ∧ l.Pairwise (fun p q => g p.1 = p.1 ∨ g p.1 ≠ q.1)
  | [], _ => by simp [visitedFrom]
  | (k, v) :: rest, dead => by
    simp only [visitedFrom, List.pairwise_cons, List.mem_cons, forall_eq_or_imp]
    cases hd : dead.contains k with
    | true =>
      have hkd : k ∈ dead := by simpa using hd
      simp only [if_true]
      constructor
      · intro h
        have := (visitedFrom_sublist g rest dead).length_le
        rw [h] at this
        simp at this
        omega
      · rintro ⟨⟨h, _⟩, _⟩; exact absurd hkd h
    | false =>
      have hkd : k ∉ dead := by simpa using hd
      simp only [Bool.false_eq_true, if_false, List.cons.injEq, true_and]
      rw [visitedFrom_eq_self_iff g rest _]
      by_cases hg : g k = k
      · have hb : (g k == k) = true := by simpa using hg
        simp only [hb, if_true]
        simp only [hg, true_or, implies_true, true_and]
        constructor
        · rintro ⟨h1, h2⟩; exact ⟨⟨hkd, h1⟩, h2⟩
        · rintro ⟨⟨_, h1⟩, h2⟩; exact ⟨h1, h2⟩
      · have hb : (g k == k) = false := by simpa using hg
        simp only [hb, Bool.false_eq_true, if_false]
        simp only [List.mem_cons, not_or, hg, false_or]
        constructor
        · rintro ⟨h1, h2⟩
          exact ⟨⟨hkd, fun p hp => (h1 p hp).2⟩, fun p hp e => (h1 p hp).1 e.symm, h2⟩
        · rintro ⟨⟨_, h1⟩, h3, h2⟩
          exact ⟨fun p hp => ⟨fun e => h3 p hp e.symm, h1 p hp⟩, h2⟩

theorem survivors_eq_self_iff (g : String → String) (kvs : List (String × α)) :
    survivors g kvs = kvs ↔
      (kvs.map (fun p => g p.1)).Nodup ∧ kvs.Pairwise (fun p q => g p.1 = p.1 ∨ g p.1 ≠ q.1) := by
  unfold survivors visited
  constructor
  · intro h
    have h1 : visitedFrom g [] kvs = kvs := by
      apply (visitedFrom_sublist g kvs []).eq_of_length_le
      have := (lastPerKey_sublist g (visitedFrom g [] kvs)).length_le
      rw [h] at this
      exact this
    rw [h1] at h
    exact ⟨(lastPerKey_eq_self_iff g kvs).1 h, ((visitedFrom_eq_self_iff g kvs []).1 h1).2⟩
  · rintro ⟨h1, h2⟩
    rw [(visitedFrom_eq_self_iff g kvs []).2 ⟨by simp, h2⟩]
    exact (lastPerKey_eq_self_iff g kvs).2 h1

theorem mem_visited_iff (g : String → String) (pre post : List (String × α)) (k : String) (v : α)
    (hnd : ((pre ++ (k, v) :: post).map (·.1)).Nodup) :
    (k, v) ∈ visited g (pre ++ (k, v) :: post) ↔ ∀ p ∈ visited g pre, g p.1 = p.1 ∨ g p.1 ≠ k := by
  unfold visited
  rw [mem_visitedFrom_iff g k v post pre [] hnd]
  simp

theorem visited_prefix (g : String → String) (pre post : List (String × α)) :
    visited g pre <+: visited g (pre ++ post) := by
  unfold visited
  rw [visitedFrom_append]
  exact List.prefix_append _ _

end Walk

/-! ## The ordered walk: a drop-and-append fold over the visited entries -/

theorem dropKey_of_not_mem {α : Type} {k : String} {l : List (String × α)} (h : k ∉ l.map (·.1)) :
    dropKey k l = l := by
  unfold dropKey
  apply List.filter_eq_self.mpr
  intro p hp
  have : p.1 ≠ k := fun he => h (he ▸ List.mem_map_of_mem hp)
  simpa using this

/-- One visit seen from the result list: drop whatever has the new key, append the new entry. -/
def visitStep (g : String → String) (w : Val → Val) (d : List (String × Val)) (p : String × Val) :
    List (String × Val) := dropKey (g p.1) d ++ [(g p.1, w p.2)]

theorem dropKey_map_img (g : String → String) (w : Val → Val) (k' : String) (l : List (String × Val)) :
    dropKey k' (l.map (fun p => (g p.1, w p.2))) =
      (l.filter (fun p => g p.1 != k')).map (fun p => (g p.1, w p.2)) := by
  unfold dropKey
  rw [List.filter_map]
  rfl

/-- Dropping whatever has the new key and appending, entry after entry, leaves of the entries mapped to the
    same new key exactly the last one. -/
theorem foldl_visitStep (g : String → String) (w : Val → Val) : ∀ (l vis : List (String × Val)),
    l.foldl (visitStep g w) ((lastPerKey g vis).map (fun p => (g p.1, w p.2))) =
      (lastPerKey g (vis ++ l)).map (fun p => (g p.1, w p.2))
  | [], vis => by simp
  | x :: l, vis => by
    have hx : lastPerKey g [x] = [x] := by
      obtain ⟨k, v⟩ := x
      simp [lastPerKey]
    have h1 : visitStep g w ((lastPerKey g vis).map (fun p => (g p.1, w p.2))) x =
        (lastPerKey g (vis ++ [x])).map (fun p => (g p.1, w p.2)) := by
      unfold visitStep
      rw [dropKey_map_img, lastPerKey_append, hx]
      simp only [List.map_append, List.map_cons, List.map_nil, List.any_cons, List.any_nil, Bool.or_false]
      congr 2
      apply List.filter_congr
      intro q _
      rw [bne, BEq.comm]
    rw [List.foldl_cons, h1, foldl_visitStep g w l (vis ++ [x])]
    simp

/-- The walk, as the fold of `visitStep` over the visited entries.  `w` is whatever the walk makes of
    the values (`mapVal g` when the nested mappings are collision-free).  The last hypothesis is the
    invariant that carries the induction: an entry still ahead of the cursor and alive has its key nowhere in
    `done`, so a rename onto it never finds an entry to drop behind the cursor without also killing it ahead. -/
theorem interpOMap_walk_gen (g : String → String) (w : Val → Val) (rest : List (String × Val)) :
    ∀ (done : List (String × Val)) (dead : List String),
      (∀ p ∈ rest, interpVal (pureTf E g) p.2 = .ok (w p.2)) →
      (rest.map (·.1)).Nodup →
      (∀ k ∈ rest.map (·.1), k ∉ dead → k ∉ done.map (·.1)) →
      interpOMap (pureTf E g) done dead rest = .ok ((visitedFrom g dead rest).foldl (visitStep g w) done) := by
  induction rest with
  | nil => intro done dead _ _ _; rw [interpOMap, visitedFrom, List.foldl_nil]
  | cons p rest ih =>
    intro done dead hv hnd hinv
    obtain ⟨k, v⟩ := p
    rw [List.map_cons, List.nodup_cons] at hnd
    have hv' := fun p hp => hv p (List.mem_cons_of_mem _ hp)
    have hinv' := fun k₂ hk₂ => hinv k₂ (List.mem_cons_of_mem _ hk₂)
    rw [interpOMap, visitedFrom]
    split
    · exact ih done dead hv' hnd.2 hinv'
    next hd =>
      have hkdone : k ∉ done.map (·.1) := hinv k List.mem_cons_self (by simpa using hd)
      rw [List.foldl_cons, pureTf, hv (k, v) List.mem_cons_self]
      dsimp only
      -- both branches of the model go on from `visitStep g w done (k, v)`
      have hinv'' : ∀ k₂ ∈ rest.map (·.1), k₂ ∉ dead → k₂ ≠ g k → k₂ ∉ (visitStep g w done (k, v)).map (·.1) := by
        intro k₂ hk₂ hd₂ hne hm
        rw [visitStep, List.map_append, List.mem_append, List.map_singleton, List.mem_singleton] at hm
        exact hm.elim (fun hm => hinv' k₂ hk₂ hd₂ ((List.filter_sublist.map _).subset hm)) hne
      split
      next hb =>
        have hgk : g k = k := beq_iff_eq.1 hb
        rw [show done ++ [(g k, w v)] = visitStep g w done (k, v) by
          rw [visitStep, dropKey_of_not_mem (hgk.symm ▸ hkdone)]]
        exact ih _ dead hv' hnd.2 fun k₂ hk₂ hd₂ => hinv'' k₂ hk₂ hd₂ fun e => hnd.1 (hgk ▸ e ▸ hk₂)
      next hb =>
        exact ih _ (g k :: dead) hv' hnd.2 fun k₂ hk₂ hd₂ =>
          hinv'' k₂ hk₂ (fun h => hd₂ (List.mem_cons_of_mem _ h)) fun e => hd₂ (e ▸ List.mem_cons_self)

theorem interpOMap_walk (g : String → String) (w : Val → Val) (kvs : List (String × Val))
    (hv : ∀ p ∈ kvs, interpVal (pureTf E g) p.2 = .ok (w p.2)) (hnd : (kvs.map (·.1)).Nodup) :
    interpOMap (pureTf E g) [] [] kvs = .ok ((survivors g kvs).map (fun p => (g p.1, w p.2))) := by
  rw [interpOMap_walk_gen g w kvs [] [] hv hnd (by simp)]
  have := foldl_visitStep g w (visitedFrom g [] kvs) []
  simp only [lastPerKey, List.map_nil, List.nil_append] at this
  rw [this]
  rfl

theorem interpOMap_fresh (g : String → String) (w : Val → Val) (kvs : List (String × Val))
    (hv : ∀ p ∈ kvs, interpVal (pureTf E g) p.2 = .ok (w p.2)) (hf : keysFresh g (kvs.map (·.1))) :
    interpOMap (pureTf E g) [] [] kvs = .ok (kvs.map (fun p => (g p.1, w p.2))) := by
  have hnd : (kvs.map (·.1)).Nodup := hf.1.of_map g fun _ _ h e => h (congrArg g e)
  rw [interpOMap_walk g w kvs hv hnd, (survivors_eq_self_iff g kvs).2 ⟨(List.map_map ..).symm ▸ hf.1, ?_⟩]
  refine List.pairwise_of_forall_mem_list fun p hp q hq => (hf.2 p.1 (List.mem_map_of_mem hp)).imp_right ?_
  exact fun h e => h (e ▸ List.mem_map_of_mem hq)

/-! ## The Go-map walk for a transformer that never fails -/

/-- Later-wins insertion of a list of entries into a Go map. -/
abbrev umapFold {α : Type} (acc l : List (String × α)) : List (String × α) :=
  l.foldl (fun acc p => umapInsert p.1 p.2 acc) acc

theorem umapOf_eq_umapFold {α : Type} (l : List (String × α)) : umapOf l = umapFold [] l := rfl

theorem interpUMap_walk (g : String → String) (w : Val → Val) :
    ∀ (kvs acc : List (String × Val)),
      (∀ p ∈ kvs, interpVal (pureTf E g) p.2 = .ok (w p.2)) →
      interpUMap (pureTf E g) acc kvs = .ok (umapFold acc (kvs.map (fun p => (g p.1, w p.2)))) := by
  intro kvs
  induction kvs with
  | nil => intro acc _; simp [interpUMap]
  | cons p rest ih =>
    intro acc hv
    obtain ⟨k, v⟩ := p
    have hvk : interpVal (pureTf E g) v = .ok (w v) := hv (k, v) List.mem_cons_self
    rw [interpUMap]
    simp only [pureTf] at hvk ⊢
    rw [hvk]
    simp only
    rw [ih _ (fun p hp => hv p (List.mem_cons_of_mem _ hp))]
    simp

/-! ## Untyped values, pure transformer -/

theorem mapValKVs_eq_map (g : String → String) (kvs : List (String × Val)) :
    mapValKVs g kvs = kvs.map (fun p => (g p.1, mapVal g p.2)) := by
  induction kvs with
  | nil => simp [mapValKVs]
  | cons p r ih => obtain ⟨k, v⟩ := p; simp [mapValKVs, ih]

theorem mapValKVs_keys (g : String → String) (kvs : List (String × Val)) :
    (mapValKVs g kvs).map (·.1) = (kvs.map (·.1)).map g := by
  rw [mapValKVs_eq_map, List.map_map, List.map_map]
  rfl

mutual
  theorem interpVal_eq (g : String → String) : (v : Val) → NoCollideVal' g v →
      interpVal (pureTf E g) v = .ok (mapVal g v)
    | .null, _ | .bool _, _ | .int _, _ | .float _, _ | .time _, _ => rfl
    | .str s, _ => rfl
    | .seq xs, h => by rw [interpVal, interpSeq_eq g xs h]; rfl
    | .omap kvs, h => by
      have h' : keysFresh g (kvs.map (·.1)) ∧ NoCollideKVs' g kvs := h
      rw [interpVal, interpOMap_fresh g (mapVal g) kvs (interpVal_of_noCollideKVs' g kvs h'.2) h'.1, mapVal,
        mapValKVs_eq_map]
      rfl
    | .umap kvs, h => by
      rw [interpVal, interpUMap_walk g (mapVal g) kvs [] (interpVal_of_noCollideKVs' g kvs h), mapVal,
        mapValKVs_eq_map, umapOf_eq_umapFold]
      rfl

  theorem interpSeq_eq (g : String → String) : (xs : List Val) → NoCollideList' g xs →
      interpSeq (pureTf E g) xs = .ok (mapValList g xs)
    | [], _ => rfl
    | x :: r, h => by
      have h' : NoCollideVal' g x ∧ NoCollideList' g r := h
      rw [interpSeq, interpVal_eq g x h'.1, interpSeq_eq g r h'.2]
      rfl

  /-- Nested mappings collision-free: the walk turns every value `v` into `mapVal g v`. -/
  theorem interpVal_of_noCollideKVs' (g : String → String) : (kvs : List (String × Val)) →
      NoCollideKVs' g kvs → ∀ p ∈ kvs, interpVal (pureTf E g) p.2 = .ok (mapVal g p.2)
    | [], _, _, hp => nomatch hp
    | (_, v) :: rest, h, p, hp => by
      have h' : NoCollideVal' g v ∧ NoCollideKVs' g rest := h
      rcases List.mem_cons.1 hp with rfl | hp
      · exact interpVal_eq g v h'.1
      · exact interpVal_of_noCollideKVs' g rest h'.2 p hp
end

/-! ## Untyped values, arbitrary transformer: where an error comes from -/

mutual
  theorem interpVal_errFrom (tf : String → Except E String) : (v : Val) → ErrFrom tf (stringsVal v) (interpVal tf v)
    | .null | .bool _ | .int _ | .float _ | .time _ => .ok
    | .str s => by rw [interpVal]; exact (ErrFrom.single s).map
    | .seq xs => by rw [interpVal]; exact (interpSeq_errFrom tf xs).map
    | .omap kvs => by rw [interpVal]; exact (interpOMap_errFrom tf kvs [] []).map
    | .umap kvs => by rw [interpVal]; exact (interpUMap_errFrom tf kvs []).map

  theorem interpSeq_errFrom (tf : String → Except E String) : (xs : List Val) →
      ErrFrom tf (stringsList xs) (interpSeq tf xs)
    | [] => by rw [interpSeq]; exact .ok
    | x :: r => by
      rw [interpSeq, stringsList]
      cases h : interpVal tf x with
      | error => exact ((interpVal_errFrom tf x).of_eq h).inl
      | ok =>
      refine .inr ?_
      cases h : interpSeq tf r with
      | error => exact (interpSeq_errFrom tf r).of_eq h
      | ok => exact .ok

  theorem interpOMap_errFrom (tf : String → Except E String) : (rest done : List (String × Val)) →
      (dead : List String) → ErrFrom tf (stringsKVs rest) (interpOMap tf done dead rest)
    | [], _, _ => by rw [interpOMap]; exact .ok
    | (k, v) :: rest, done, dead => by
      rw [interpOMap, stringsKVs]
      split
      · exact (interpOMap_errFrom tf rest done dead).inr
      refine .bindStr fun _ => ?_
      cases h : interpVal tf v with
      | error => exact ((interpVal_errFrom tf v).of_eq h).inl
      | ok =>
      refine .inr ?_
      dsimp only
      split <;> exact interpOMap_errFrom tf rest _ _

  theorem interpUMap_errFrom (tf : String → Except E String) : (kvs acc : List (String × Val)) →
      ErrFrom tf (stringsKVs kvs) (interpUMap tf acc kvs)
    | [], _ => by rw [interpUMap]; exact .ok
    | (k, v) :: rest, acc => by
      rw [interpUMap, stringsKVs]
      refine .bindStr fun _ => ?_
      cases h : interpVal tf v with
      | error => exact ((interpVal_errFrom tf v).of_eq h).inl
      | ok => exact (interpUMap_errFrom tf rest _).inr
end

theorem interpSeq_error (tf : String → Except E String) (e : E) : (xs : List Val) →
      interpSeq tf xs = .error e → ∃ x ∈ stringsList xs, tf x = .error e :=
  fun xs => interpSeq_errFrom tf xs e

/-! ## Typed helpers: Go maps and slices of strings -/

theorem interpUMapV_eq (g : String → String) (m : UMap Val) (h : NoCollideUMapV' g m) :
    interpUMapV (pureTf E g) m = .ok (mapUMapV g m) := by
  cases m with
  | none => rfl
  | some kvs =>
    rw [interpUMapV, interpUMap_walk g (mapVal g) kvs [] (interpVal_of_noCollideKVs' g kvs h), mapUMapV,
      mapValKVs_eq_map, umapOf_eq_umapFold]
    rfl


theorem interpUMapV_errFrom (tf : String → Except E String) (m : UMap Val) :
    ErrFrom tf (stringsUMapV m) (interpUMapV tf m) := by
  cases m with
  | none => exact .ok
  | some kvs => exact (interpUMap_errFrom tf kvs []).map

/-- The last step of the typed walkers: the unknown fields, then the result is put together. -/
theorem interpUMapV_errFrom_last (tf : String → Except E String) (m : UMap Val) {α : Type} (f : UMap Val → α) :
    ErrFrom tf (stringsUMapV m) (match interpUMapV tf m with | .error e => .error e | .ok r => .ok (f r)) := by
  cases h : interpUMapV tf m with
  | error => exact (interpUMapV_errFrom tf m).of_eq h
  | ok => exact .ok

theorem interpStrs_eq (g : String → String) (l : List String) :
    interpStrs (pureTf E g) l = .ok (l.map g) := by
  induction l with
  | nil => rfl
  | cons s r ih => simp [interpStrs, ih, pureTf]


theorem interpStrs_errFrom (tf : String → Except E String) (l : List String) : ErrFrom tf l (interpStrs tf l) := by
  induction l with
  | nil => exact .ok
  | cons s r ih =>
    rw [interpStrs]
    refine .bindStr fun _ => ?_
    cases h : interpStrs tf r with
    | error => exact ih.of_eq h
    | ok => exact .ok

theorem interpUMapSAux_eq (g : String → String) (kvs acc : List (String × String)) :
    interpUMapSAux (pureTf E g) acc kvs = .ok (umapFold acc (kvs.map fun (k, v) => (g k, g v))) := by
  induction kvs generalizing acc with
  | nil => rfl
  | cons p r ih => obtain ⟨k, v⟩ := p; simp [interpUMapSAux, ih, pureTf]


theorem interpUMapSAux_errFrom (tf : String → Except E String) (kvs acc : List (String × String)) :
    ErrFrom tf (kvs.flatMap fun (k, v) => [k, v]) (interpUMapSAux tf acc kvs) := by
  induction kvs generalizing acc with
  | nil => exact .ok
  | cons p r ih =>
    obtain ⟨k, v⟩ := p
    rw [interpUMapSAux, List.flatMap_cons]
    exact .bindStr fun _ => .bindStr fun _ => ih _

theorem interpUMapS_eq (g : String → String) (m : UMap String) :
    interpUMapS (pureTf E g) m = .ok (mapUMapS g m) := by
  cases m with
  | none => rfl
  | some kvs => simp [interpUMapS, mapUMapS, interpUMapSAux_eq, Except.map, umapOf_eq_umapFold]


theorem interpUMapS_errFrom (tf : String → Except E String) (m : UMap String) :
    ErrFrom tf (stringsUMapS m) (interpUMapS tf m) := by
  cases m with
  | none => exact .ok
  | some kvs => exact (interpUMapSAux_errFrom tf kvs []).map

theorem interpValuesSAux_eq (g : String → String) (kvs : List (String × String)) :
    interpValuesSAux (pureTf E g) kvs = .ok (kvs.map fun (k, v) => (k, g v)) := by
  induction kvs with
  | nil => rfl
  | cons p r ih => obtain ⟨k, v⟩ := p; simp [interpValuesSAux, ih, pureTf]


theorem interpValuesSAux_errFrom (tf : String → Except E String) (kvs : List (String × String)) :
    ErrFrom tf (kvs.map (·.2)) (interpValuesSAux tf kvs) := by
  induction kvs with
  | nil => exact .ok
  | cons p r ih =>
    obtain ⟨k, v⟩ := p
    rw [interpValuesSAux, List.map_cons]
    refine .bindStr fun _ => ?_
    cases h : interpValuesSAux tf r with
    | error => exact ih.of_eq h
    | ok => exact .ok

theorem interpValuesSAux_keys (tf : String → Except E String) (kvs : List (String × String)) :
    OkAll (fun r => r.map (·.1) = kvs.map (·.1)) (interpValuesSAux tf kvs) := by
  induction kvs with
  | nil => exact .ok rfl
  | cons p t ih =>
    rw [interpValuesSAux]
    cases tf p.2 with
    | error => exact .error
    | ok =>
    cases h : interpValuesSAux tf t with
    | error => exact .error
    | ok r => exact .ok (congrArg (p.1 :: ·) (ih r h))

theorem interpValuesS_eq (g : String → String) (m : UMap String) :
    interpValuesS (pureTf E g) m = .ok (mapValuesS g m) := by
  cases m with
  | none => rfl
  | some kvs => simp [interpValuesS, mapValuesS, interpValuesSAux_eq, Except.map]


theorem interpValuesS_errFrom (tf : String → Except E String) (m : UMap String) :
    ErrFrom tf (match m with | none => [] | some kvs => kvs.map (fun (p : String × String) => p.2))
      (interpValuesS tf m) := by
  cases m with
  | none => exact .ok
  | some kvs => exact (interpValuesSAux_errFrom tf kvs).map

theorem interpValuesS_keys (tf : String → Except E String) (m : UMap String) :
    OkAll (fun m' => m'.map (·.map (·.1)) = m.map (·.map (·.1))) (interpValuesS tf m) := by
  cases m with
  | none => exact .ok rfl
  | some kvs => exact .map fun r hr => congrArg some (interpValuesSAux_keys tf kvs r hr)

theorem optStrs_eq (g : String → String) (o : Option (List String)) :
    (match o with | none => .ok none | some l => (interpStrs (pureTf E g) l).map some : Except E (Option (List String)))
      = .ok (o.map (·.map g)) := by
  cases o with
  | none => rfl
  | some l => simp [interpStrs_eq, Except.map]

theorem optStrs_errFrom (tf : String → Except E String) (o : Option (List String)) :
    ErrFrom tf (o.getD [])
      (match o with | none => .ok none | some l => (interpStrs tf l).map some : Except E (Option (List String))) := by
  cases o with
  | none => exact .ok
  | some l => exact (interpStrs_errFrom tf l).map

theorem optStrs_error (tf : String → Except E String) (e : E) (o : Option (List String))
    (h : (match o with | none => .ok none | some l => (interpStrs tf l).map some : Except E (Option (List String)))
      = .error e) : ∃ x ∈ o.getD [], tf x = .error e := optStrs_errFrom tf o e h

theorem interpSetupAux_eq (g : String → String) (kvs acc : List (String × Option (List String))) :
    interpSetupAux (pureTf E g) acc kvs =
      .ok (umapFold acc (kvs.map fun (k, v) => (g k, v.map (·.map g)))) := by
  induction kvs generalizing acc with
  | nil => rfl
  | cons p r ih =>
    obtain ⟨k, v⟩ := p
    cases v with
    | none => simp [interpSetupAux, ih, pureTf]
    | some l => simp [interpSetupAux, ih, pureTf, interpStrs_eq, Except.map]


theorem interpSetupAux_errFrom (tf : String → Except E String) (kvs acc : List (String × Option (List String))) :
    ErrFrom tf (kvs.flatMap fun (k, v) => k :: v.getD []) (interpSetupAux tf acc kvs) := by
  induction kvs generalizing acc with
  | nil => exact .ok
  | cons p r ih =>
    obtain ⟨k, v⟩ := p
    unfold interpSetupAux
    rw [List.flatMap_cons]
    exact .bindStr fun _ => .bindOptStrs (optStrs_errFrom tf v) fun _ => ih _

theorem interpSetup_eq (g : String → String) (m : UMap (Option (List String))) :
    interpSetup (pureTf E g) m =
      .ok (m.map fun kvs => umapOf (kvs.map fun (k, v) => (g k, v.map (·.map g)))) := by
  cases m with
  | none => rfl
  | some kvs => simp [interpSetup, interpSetupAux_eq, Except.map, umapOf_eq_umapFold]


theorem interpSetup_errFrom (tf : String → Except E String) (m : UMap (Option (List String))) :
    ErrFrom tf (match m with | none => [] | some kvs => kvs.flatMap fun (k, v) => k :: v.getD [] : List String)
      (interpSetup tf m) := by
  cases m with
  | none => exact .ok
  | some kvs => exact (interpSetupAux_errFrom tf kvs []).map

/-! ## `optM` -/

theorem optM_eq {α : Type} (f : α → Except E α) (f' : α → α) (o : Option α)
    (h : ∀ a, o = some a → f a = .ok (f' a)) : optM f o = .ok (o.map f') := by
  cases o with
  | none => rfl
  | some a => simp [optM, h a rfl, Except.map]


theorem optM_ok {α : Type} (f : α → Except E α) (o o' : Option α) (h : optM f o = .ok o') :
    (o = none ∧ o' = none) ∨ ∃ a a', o = some a ∧ o' = some a' ∧ f a = .ok a' := by
  cases o with
  | none => simp [optM] at h; exact .inl ⟨rfl, h.symm⟩
  | some a =>
    obtain ⟨a', ha, rfl⟩ := map_eq_ok h
    exact .inr ⟨a, a', rfl, rfl, ha⟩


/-! ## Plugins -/

theorem interpPlugin_eq (g : String → String) (p : Plugin) (h : NoCollideVal' g p.config) :
    interpPlugin (pureTf E g) p = .ok (mapPlugin g p) := by
  simp [interpPlugin, interpVal_eq g p.config h, mapPlugin, pureTf]


theorem interpPlugin_errFrom (tf : String → Except E String) (p : Plugin) :
    ErrFrom tf (p.source :: stringsVal p.config) (interpPlugin tf p) := by
  unfold interpPlugin
  refine .bindStr fun _ => ?_
  cases h : interpVal tf p.config with
  | error => exact (interpVal_errFrom tf _).of_eq h
  | ok => exact .ok

theorem interpPlugins_eq (g : String → String) (l : List (Option Plugin))
    (h : ∀ p, some p ∈ l → NoCollideVal' g p.config) :
    interpPlugins (pureTf E g) l = .ok (l.map (·.map (mapPlugin g))) := by
  induction l with
  | nil => rfl
  | cons o r ih =>
    have ih' := ih (fun p hp => h p (List.mem_cons_of_mem _ hp))
    cases o with
    | none => simp [interpPlugins, ih', Except.map]
    | some p => simp [interpPlugins, ih', interpPlugin_eq g p (h p (by simp))]


theorem interpPlugins_errFrom (tf : String → Except E String) (l : List (Option Plugin)) :
    ErrFrom tf (stringsPlugins (some l)) (interpPlugins tf l) := by
  induction l with
  | nil => exact .ok
  | cons o r ih =>
    simp only [stringsPlugins, List.flatMap_cons] at ih ⊢
    cases o with
    | none => rw [interpPlugins]; exact ih.map.inr
    | some p =>
      rw [interpPlugins]
      cases h : interpPlugin tf p with
      | error => exact ((interpPlugin_errFrom tf p).of_eq h).inl
      | ok =>
      refine .inr ?_
      cases h : interpPlugins tf r with
      | error => exact ih.of_eq h
      | ok => exact .ok

theorem optM_interpPlugins_errFrom (tf : String → Except E String) (o : Option (List (Option Plugin))) :
    ErrFrom tf (stringsPlugins o) (optM (interpPlugins tf) o) :=
  .optM fun l hl => hl ▸ interpPlugins_errFrom tf l

/-! ## Matrix adjustments, matrix, cache -/

theorem interpAdjustment_eq (g : String → String) (a : Adjustment) (h : NoCollideAdj' g a) :
    interpAdjustment (pureTf E g) a = .ok (mapAdjustment g a) := by
  simp [interpAdjustment, interpUMapS_eq, interpVal_eq g a.skip h.1, interpUMapV_eq g a.rem h.2, mapAdjustment]


theorem interpAdjustment_errFrom (tf : String → Except E String) (a : Adjustment) :
    ErrFrom tf (stringsAdj a) (interpAdjustment tf a) := by
  unfold interpAdjustment
  rw [stringsAdj, List.append_assoc]
  cases h : interpUMapS tf a.with_ with
  | error => exact ((interpUMapS_errFrom tf _).of_eq h).inl
  | ok =>
  refine .inr ?_
  cases h : interpVal tf a.skip with
  | error => exact ((interpVal_errFrom tf _).of_eq h).inl
  | ok => exact (interpUMapV_errFrom_last tf _ _).inr

theorem interpAdjustments_eq (g : String → String) (l : List (Option Adjustment))
    (h : ∀ a, some a ∈ l → NoCollideAdj' g a) :
    interpAdjustments (pureTf E g) l = .ok (l.map (·.map (mapAdjustment g))) := by
  induction l with
  | nil => rfl
  | cons o r ih =>
    have ih' := ih (fun a ha => h a (List.mem_cons_of_mem _ ha))
    cases o with
    | none => simp [interpAdjustments, ih', Except.map]
    | some a => simp [interpAdjustments, ih', interpAdjustment_eq g a (h a (by simp))]


theorem interpAdjustments_errFrom (tf : String → Except E String) (l : List (Option Adjustment)) :
    ErrFrom tf (l.flatMap fun | none => [] | some a => stringsAdj a) (interpAdjustments tf l) := by
  induction l with
  | nil => exact .ok
  | cons o r ih =>
    rw [List.flatMap_cons]
    cases o with
    | none => rw [interpAdjustments]; exact ih.map.inr
    | some a =>
      rw [interpAdjustments]
      cases h : interpAdjustment tf a with
      | error => exact ((interpAdjustment_errFrom tf a).of_eq h).inl
      | ok =>
      refine .inr ?_
      cases h : interpAdjustments tf r with
      | error => exact ih.of_eq h
      | ok => exact .ok

theorem interpMatrix_eq (g : String → String) (m : Matrix) (h : NoCollideMatrix' g m) :
    interpMatrix .env (pureTf E g) m = .ok (mapMatrix g m) := by
  simp only [interpMatrix, interpSetup_eq, interpUMapV_eq g m.rem h.2, mapMatrix]
  cases hl : m.adjustments with
  | none => rfl
  | some l => simp [interpAdjustments_eq g l (h.1 l hl), Except.map]


theorem interpMatrix_errFrom (tf : String → Except E String) (m : Matrix) :
    ErrFrom tf (stringsMatrix m) (interpMatrix .env tf m) := by
  simp only [interpMatrix, stringsMatrix, List.append_assoc]
  cases h : interpSetup tf m.setup with
  | error => exact ((interpSetup_errFrom tf _).of_eq h).inl
  | ok =>
  refine .inr ?_
  cases m.adjustments with
  | none => exact (interpUMapV_errFrom_last tf _ _).inr
  | some l =>
    dsimp only
    cases h : interpAdjustments tf l with
    | error => exact ((interpAdjustments_errFrom tf l).of_eq h).inl
    | ok => exact (interpUMapV_errFrom_last tf _ _).inr

theorem interpCache_eq (g : String → String) (c : Cache) (h : NoCollideUMapV' g c.rem) :
    interpCache (pureTf E g) c = .ok (mapCache g c) := by
  simp only [interpCache, pureTf, interpUMapV_eq g c.rem h, mapCache]
  cases c.paths with
  | none => rfl
  | some l => simp [interpStrs_eq, Except.map]


theorem interpCache_errFrom (tf : String → Except E String) (c : Cache) :
    ErrFrom tf (stringsCache c) (interpCache tf c) := by
  unfold interpCache
  rw [stringsCache]
  exact .bindStr fun _ => .bindOptStrs (optStrs_errFrom tf _) fun _ => .bindStr fun _ =>
    interpUMapV_errFrom_last tf _ _

/-! ## `(*CommandStep).interpolate` -/

/-- Flat form of the env branch. -/
theorem interpCommand_env_def (tf : String → Except E String) (c : CommandStep) :
    interpCommand .env tf c =
      match tf c.command with
      | .error e => .error e
      | .ok command =>
      match tf c.label with
      | .error e => .error e
      | .ok label =>
      match optM (interpPlugins tf) c.plugins with
      | .error e => .error e
      | .ok plugins =>
      match tf c.key with
      | .error e => .error e
      | .ok key =>
      match interpUMapS tf c.env with
      | .error e => .error e
      | .ok env =>
      match optM (interpMatrix .env tf) c.matrix with
      | .error e => .error e
      | .ok matrix =>
      match optM (interpCache tf) c.cache with
      | .error e => .error e
      | .ok cache =>
      match interpUMapV tf c.rem with
      | .error e => .error e
      | .ok rem => .ok { c with command := command, label := label, plugins := plugins, key := key,
                                env := env, matrix := matrix, cache := cache, rem := rem } := by
  unfold interpCommand
  cases tf c.command <;> try rfl
  cases tf c.label <;> try rfl
  cases optM (interpPlugins tf) c.plugins <;> try rfl
  simp only
  cases tf c.key <;> try rfl
  cases interpUMapS tf c.env <;> try rfl
  cases optM (interpMatrix .env tf) c.matrix <;> try rfl
  cases optM (interpCache tf) c.cache <;> try rfl

/-- Flat form of the matrix branch. -/
theorem interpCommand_matrix_def (tf : String → Except E String) (c : CommandStep) :
    interpCommand .matrix tf c =
      match tf c.command with
      | .error e => .error e
      | .ok command =>
      match tf c.label with
      | .error e => .error e
      | .ok label =>
      match optM (interpPlugins tf) c.plugins with
      | .error e => .error e
      | .ok plugins =>
      match interpValuesS tf c.env with
      | .error e => .error e
      | .ok env =>
      match interpUMapV tf c.rem with
      | .error e => .error e
      | .ok rem => .ok { c with command := command, label := label, plugins := plugins, env := env, rem := rem } := by
  unfold interpCommand
  cases tf c.command <;> try rfl
  cases tf c.label <;> try rfl
  cases optM (interpPlugins tf) c.plugins <;> try rfl
  simp only
  cases interpValuesS tf c.env <;> try rfl

theorem optM_interpPlugins_eq (g : String → String) (o : Option (List (Option Plugin)))
    (h : ∀ l, o = some l → ∀ p, some p ∈ l → NoCollideVal' g p.config) :
    optM (interpPlugins (pureTf E g)) o = .ok (o.map (·.map (·.map (mapPlugin g)))) :=
  optM_eq _ _ _ (fun l hl => interpPlugins_eq g l (h l hl))

theorem interpCommand_env_eq (g : String → String) (c : CommandStep) (h : NoCollideCommand' g c) :
    interpCommand .env (pureTf E g) c = .ok (mapCommandEnv g c) := by
  have hm : optM (interpMatrix .env (pureTf E g)) c.matrix = .ok (c.matrix.map (mapMatrix g)) :=
    optM_eq _ _ _ (fun m hm => interpMatrix_eq g m (h.2.1 m hm))
  have hc : optM (interpCache (pureTf E g)) c.cache = .ok (c.cache.map (mapCache g)) :=
    optM_eq _ _ _ (fun k hk => interpCache_eq g k (h.2.2.1 k hk))
  rw [interpCommand_env_def]
  simp only [pureTf, optM_interpPlugins_eq g _ h.1, interpUMapS_eq, hm, hc, interpUMapV_eq g c.rem h.2.2.2,
    mapCommandEnv]

theorem interpCommand_matrix_eq (g : String → String) (c : CommandStep) (h : NoCollideCommand' g c) :
    interpCommand .matrix (pureTf E g) c = .ok (mapCommandMatrix g c) := by
  rw [interpCommand_matrix_def]
  simp only [pureTf, optM_interpPlugins_eq g _ h.1, interpValuesS_eq, interpUMapV_eq g c.rem h.2.2.2,
    mapCommandMatrix]


theorem interpCommand_errFrom (kind : TfKind) (tf : String → Except E String) (c : CommandStep) :
    ErrFrom tf (stringsCommand kind c) (interpCommand kind tf c) := by
  cases kind with
  | env =>
    rw [interpCommand_env_def]
    simp only [stringsCommand, List.append_assoc, List.cons_append]
    refine .bindStr fun _ => .bindStr fun _ => ?_
    cases h : optM (interpPlugins tf) c.plugins with
    | error => exact ((optM_interpPlugins_errFrom tf _).of_eq h).inl
    | ok =>
    refine .inr (.bindStr fun _ => ?_)
    cases h : interpUMapS tf c.env with
    | error => exact ((interpUMapS_errFrom tf _).of_eq h).inl
    | ok =>
    refine .inr ?_
    cases h : optM (interpMatrix .env tf) c.matrix with
    | error => exact ((ErrFrom.optM fun m hm => by rw [hm]; exact interpMatrix_errFrom tf m).of_eq h).inl
    | ok =>
    refine .inr ?_
    cases h : optM (interpCache tf) c.cache with
    | error => exact ((ErrFrom.optM fun k hk => by rw [hk]; exact interpCache_errFrom tf k).of_eq h).inl
    | ok => exact (interpUMapV_errFrom_last tf _ _).inr
  | matrix =>
    rw [interpCommand_matrix_def]
    simp only [stringsCommand, List.append_assoc, List.cons_append]
    refine .bindStr fun _ => .bindStr fun _ => ?_
    cases h : optM (interpPlugins tf) c.plugins with
    | error => exact ((optM_interpPlugins_errFrom tf _).of_eq h).inl
    | ok =>
    refine .inr ?_
    cases h : interpValuesS tf c.env with
    | error => exact ((interpValuesS_errFrom tf _).of_eq h).inl
    | ok => exact (interpUMapV_errFrom_last tf _ _).inr

theorem interpCommand_matrix_scope (tf : String → Except E String) (c : CommandStep) :
    OkAll (fun c' => c'.key = c.key ∧ c'.matrix = c.matrix ∧ c'.signature = c.signature ∧ c'.cache = c.cache ∧
      c'.env.map (·.map (·.1)) = c.env.map (·.map (·.1))) (interpCommand .matrix tf c) := by
  rw [interpCommand_matrix_def]
  refine .bindStr fun _ => .bindStr fun _ => ?_
  cases optM (interpPlugins tf) c.plugins with
  | error => exact .error
  | ok =>
  cases h : interpValuesS tf c.env with
  | error => exact .error
  | ok =>
  cases interpUMapV tf c.rem with
  | error => exact .error
  | ok => exact .ok ⟨rfl, rfl, rfl, rfl, interpValuesS_keys tf _ _ h⟩

theorem interpCommand_signature (kind : TfKind) (tf : String → Except E String) (c : CommandStep) :
    OkAll (fun c' => c'.signature = c.signature) (interpCommand kind tf c) := by
  cases kind with
  | env =>
    rw [interpCommand_env_def]
    refine .bindStr fun _ => .bindStr fun _ => ?_
    cases optM (interpPlugins tf) c.plugins with
    | error => exact .error
    | ok =>
    refine .bindStr fun _ => ?_
    cases interpUMapS tf c.env with
    | error => exact .error
    | ok =>
    cases optM (interpMatrix .env tf) c.matrix with
    | error => exact .error
    | ok =>
    cases optM (interpCache tf) c.cache with
    | error => exact .error
    | ok =>
    cases interpUMapV tf c.rem with
    | error => exact .error
    | ok => exact .ok rfl
  | matrix => exact fun c' h => (interpCommand_matrix_scope tf c c' h).2.2.1

/-! ## Steps -/

/-! Equation lemmas (the equation compiler fails to generate them for `interpStep`). -/

theorem interpStep_command (kind : TfKind) (tf : String → Except E String) (c : CommandStep) :
    interpStep kind tf (.command c) = (interpCommand kind tf c).map .command := rfl
theorem interpStep_wait (kind : TfKind) (tf : String → Except E String) (s : String) (c : UMap Val) :
    interpStep kind tf (.wait s c) = (interpUMapV tf c).map (.wait s) := rfl
theorem interpStep_input (kind : TfKind) (tf : String → Except E String) (s : String) (c : UMap Val) :
    interpStep kind tf (.input s c) = (interpUMapV tf c).map (.input s) := rfl
theorem interpStep_trigger (kind : TfKind) (tf : String → Except E String) (c : UMap Val) :
    interpStep kind tf (.trigger c) = (interpUMapV tf c).map .trigger := rfl
theorem interpStep_unknown (kind : TfKind) (tf : String → Except E String) (v : Val) :
    interpStep kind tf (.unknown v) = (interpVal tf v).map .unknown := rfl
theorem interpStep_group_none (kind : TfKind) (tf : String → Except E String) (k : String) (g : Option String)
    (r : UMap Val) :
    interpStep kind tf (.group k g none r) =
      match tf k with
      | .error e => .error e
      | .ok k' =>
        match optM tf g with
        | .error e => .error e
        | .ok g' =>
          match interpUMapV tf r with
          | .error e => .error e
          | .ok r' => .ok (.group k' g' none r') := rfl
theorem interpStep_group_some (kind : TfKind) (tf : String → Except E String) (k : String) (g : Option String)
    (l : List Step) (r : UMap Val) :
    interpStep kind tf (.group k g (some l) r) =
      match tf k with
      | .error e => .error e
      | .ok k' =>
        match optM tf g with
        | .error e => .error e
        | .ok g' =>
          match interpSteps kind tf l with
          | .error e => .error e
          | .ok l' =>
            match interpUMapV tf r with
            | .error e => .error e
            | .ok r' => .ok (.group k' g' (some l') r') := by
  show ((match tf k with
      | .error e => .error e
      | .ok k' =>
        match optM tf g with
        | .error e => .error e
        | .ok g' =>
          match (interpSteps kind tf l).map some with
          | .error e => .error e
          | .ok ss' =>
            match interpUMapV tf r with
            | .error e => .error e
            | .ok r' => .ok (.group k' g' ss' r')) : Except E Step) = _
  cases interpSteps kind tf l <;> rfl
theorem interpSteps_nil (kind : TfKind) (tf : String → Except E String) :
    interpSteps kind tf [] = .ok [] := rfl
theorem interpSteps_cons (kind : TfKind) (tf : String → Except E String) (s : Step) (r : List Step) :
    interpSteps kind tf (s :: r) =
      match interpStep kind tf s with
      | .error e => .error e
      | .ok s' =>
        match interpSteps kind tf r with
        | .error e => .error e
        | .ok r' => .ok (s' :: r') := rfl

mutual
  theorem interpStep_eq (kind : TfKind) (g : String → String) : (s : Step) → NoCollideStep' g s →
      interpStep kind (pureTf E g) s = .ok (mapStep g kind s)
    | .command c, h => by
      have h' : NoCollideCommand' g c := h
      rw [interpStep_command]
      cases kind with
      | env => rw [interpCommand_env_eq g c h']; rfl
      | matrix => rw [interpCommand_matrix_eq g c h']; rfl
    | .wait s c, h => by
      have h' : NoCollideUMapV' g c := h
      rw [interpStep_wait, interpUMapV_eq g c h']; rfl
    | .input s c, h => by
      have h' : NoCollideUMapV' g c := h
      rw [interpStep_input, interpUMapV_eq g c h']; rfl
    | .trigger c, h => by
      have h' : NoCollideUMapV' g c := h
      rw [interpStep_trigger, interpUMapV_eq g c h']; rfl
    | .group k gr none r, h => by
      have h' : True ∧ NoCollideUMapV' g r := h
      have hg : optM (pureTf E g) gr = .ok (gr.map g) := optM_eq _ _ _ (fun _ _ => rfl)
      rw [interpStep_group_none]
      simp only [hg, interpUMapV_eq g r h'.2, pureTf]
      rfl
    | .group k gr (some l) r, h => by
      have h' : NoCollideSteps' g l ∧ NoCollideUMapV' g r := h
      have hg : optM (pureTf E g) gr = .ok (gr.map g) := optM_eq _ _ _ (fun _ _ => rfl)
      rw [interpStep_group_some]
      simp only [hg, interpUMapV_eq g r h'.2, interpSteps_eq kind g l h'.1, pureTf]
      rfl
    | .unknown v, h => by
      have h' : NoCollideVal' g v := h
      rw [interpStep_unknown, interpVal_eq g v h']; rfl

  theorem interpSteps_eq (kind : TfKind) (g : String → String) : (l : List Step) → NoCollideSteps' g l →
      interpSteps kind (pureTf E g) l = .ok (mapSteps g kind l)
    | [], _ => rfl
    | s :: r, h => by
      have h' : NoCollideStep' g s ∧ NoCollideSteps' g r := h
      rw [interpSteps_cons]
      simp only [interpStep_eq kind g s h'.1, interpSteps_eq kind g r h'.2]
      rfl
end

/-! ## Structure: step kinds are preserved -/

theorem interpStep_tag (kind : TfKind) (tf : String → Except E String) (s : Step) :
    OkAll (fun s' => stepTag s' = stepTag s) (interpStep kind tf s) := by
  cases s with
  | command c => rw [interpStep_command]; exact .map fun _ _ => rfl
  | wait x c => rw [interpStep_wait]; exact .map fun _ _ => rfl
  | input x c => rw [interpStep_input]; exact .map fun _ _ => rfl
  | trigger c => rw [interpStep_trigger]; exact .map fun _ _ => rfl
  | unknown v => rw [interpStep_unknown]; exact .map fun _ _ => rfl
  | group k g ss r =>
    cases ss with
    | none =>
      rw [interpStep_group_none]
      refine .bindStr fun _ => ?_
      cases optM tf g with
      | error => exact .error
      | ok =>
      cases interpUMapV tf r with
      | error => exact .error
      | ok => exact .ok rfl
    | some l =>
      rw [interpStep_group_some]
      refine .bindStr fun _ => ?_
      cases optM tf g with
      | error => exact .error
      | ok =>
      cases interpSteps kind tf l with
      | error => exact .error
      | ok =>
      cases interpUMapV tf r with
      | error => exact .error
      | ok => exact .ok rfl

theorem interpSteps_tags (kind : TfKind) (tf : String → Except E String) (l : List Step) :
    OkAll (fun l' => l'.map stepTag = l.map stepTag) (interpSteps kind tf l) := by
  induction l with
  | nil => exact .ok rfl
  | cons s r ih =>
    rw [interpSteps_cons]
    cases hs : interpStep kind tf s with
    | error => exact .error
    | ok s' =>
    cases hr : interpSteps kind tf r with
    | error => exact .error
    | ok r' => exact .ok (by rw [List.map_cons, List.map_cons, interpStep_tag kind tf s s' hs, ih r' hr])

/-! ## Errors at step level -/

theorem stringsStep_group (kind : TfKind) (k : String) (g : Option String) (ss : Option (List Step)) (r : UMap Val) :
    stringsStep kind (.group k g ss r) =
      k :: (g.toList ++ (match ss with | none => [] | some l => stringsSteps kind l) ++ stringsUMapV r) := by
  cases ss <;> rfl

theorem stringsSteps_cons (kind : TfKind) (s : Step) (r : List Step) :
    stringsSteps kind (s :: r) = stringsStep kind s ++ stringsSteps kind r := rfl


mutual
  theorem interpStep_errFrom (kind : TfKind) (tf : String → Except E String) : (s : Step) →
      ErrFrom tf (stringsStep kind s) (interpStep kind tf s)
    | .command c => by rw [interpStep_command]; exact (interpCommand_errFrom kind tf c).map
    | .wait _ c => by rw [interpStep_wait]; exact (interpUMapV_errFrom tf c).map
    | .input _ c => by rw [interpStep_input]; exact (interpUMapV_errFrom tf c).map
    | .trigger c => by rw [interpStep_trigger]; exact (interpUMapV_errFrom tf c).map
    | .unknown v => by rw [interpStep_unknown]; exact (interpVal_errFrom tf v).map
    | .group k g ss r => by
      rw [stringsStep_group, List.append_assoc]
      cases ss with
      | none =>
        rw [interpStep_group_none]
        refine .bindStr fun _ => ?_
        cases h : optM tf g with
        | error => exact ((ErrFrom.optM fun a ha => by rw [ha]; exact .single a).of_eq h).inl
        | ok => exact (interpUMapV_errFrom_last tf _ _).inr.inr
      | some l =>
        rw [interpStep_group_some]
        refine .bindStr fun _ => ?_
        cases h : optM tf g with
        | error => exact ((ErrFrom.optM fun a ha => by rw [ha]; exact .single a).of_eq h).inl
        | ok =>
        refine .inr ?_
        cases h : interpSteps kind tf l with
        | error => exact ((interpSteps_errFrom kind tf l).of_eq h).inl
        | ok => exact (interpUMapV_errFrom_last tf _ _).inr

  theorem interpSteps_errFrom (kind : TfKind) (tf : String → Except E String) : (l : List Step) →
      ErrFrom tf (stringsSteps kind l) (interpSteps kind tf l)
    | [] => .ok
    | s :: r => by
      rw [interpSteps_cons, stringsSteps_cons]
      cases h : interpStep kind tf s with
      | error => exact ((interpStep_errFrom kind tf s).of_eq h).inl
      | ok =>
      refine .inr ?_
      cases h : interpSteps kind tf r with
      | error => exact (interpSteps_errFrom kind tf r).of_eq h
      | ok => exact .ok
end

theorem interpSteps_error (kind : TfKind) (tf : String → Except E String) : (l : List Step) → (e : E) →
      interpSteps kind tf l = .error e → ∃ x ∈ stringsSteps kind l, tf x = .error e :=
  interpSteps_errFrom kind tf


/-! ## The counterexample to plain image-distinctness (see the header) -/

/-- `a ↦ b`, `b ↦ c`: images of the keys `a, b` are distinct, yet the entry `b` is lost. -/
def cexG : String → String := fun s => if s = "a" then "b" else if s = "b" then "c" else s
def cexV : Val := .omap [("a", .str "x"), ("b", .str "y")]

/-- info: Except.ok (GoPipeline.Val.omap [("b", GoPipeline.Val.str "x")]) -/
#guard_msgs in
#eval interpVal (pureTf Unit cexG) cexV

/-- info: GoPipeline.Val.omap [("b", GoPipeline.Val.str "x"), ("c", GoPipeline.Val.str "y")] -/
#guard_msgs in
#eval mapVal cexG cexV

end GoPipeline.Interp
