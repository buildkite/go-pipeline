/-
  C02 on structurally well-formed step TREES under env interpolation: `Lemmas/StepOK.lean` bridges env
  interpolation for one command step (`interpCommand_stepOK`); here the bridge covers every step kind and step
  lists.  `TreeFixed tf s` is the condition on the transformer; `interp_induction` is induction over a successful
  interpolation, one case per step kind with the results of the walks `interpStep` made.

  `MapsNodup` (the contents of a wait / input / trigger step have pairwise distinct keys) is an invariant of Go
  maps that the model's list representation does not enforce by typing, and the statement without it is FALSE in
  the model: `StepOK (.wait "" c)` only says that `c` SELECTS the wait kind, and `List.lookup` reads the FIRST
  entry of a key, while a Go-map walk stores entries in turn and the LAST one wins.  On the ill-formed
  representation `[("type", "wait"), ("type", "command")]` the identity transformer turns a `StepOK` wait step into
  one whose contents select the command kind (`C02_maps_nodup_needed`).  No real Go map has duplicate keys, the
  parser only produces sorted contents (`parse_mapsNodup`) and every interpolation result has distinct keys
  (`interp_mapsNodup`), so the composed theorems need no such hypothesis.
-/
import GoPipeline.Lemmas.StepOK
namespace GoPipeline.SignedRT
open GoPipeline GoPipeline.Pipe GoPipeline.Parse GoPipeline.Marshal GoPipeline.Signing GoPipeline.Roundtrip
  GoPipeline.Unm

section TreeInterp
open GoPipeline.Interp
variable {E : Type}

/-! ## The conditions -/

mutual
  /-- The transformer leaves the kind-relevant part of the step tree alone:
      * command: `KeysFixed` (top-level keys of the step's four kinds of inline remainder) and the string value
        of the unknown field `type`;
      * wait / input / trigger: every top-level key of the contents and the string value of a `type` entry
        (the scalar form is NOT interpolated by `Step.interpolate`, so nothing is asked of it);
      * group: every top-level key of the unknown fields, the string value of an unknown `type` field, and the
        nested steps recursively (key and label of the group are interpolated, but `StepOK` does not depend
        on them, so nothing is asked);
      * unknown: nothing.
      Values (other than the `type` string), nested keys, env names, plugin configs etc. may change freely. -/
  def TreeFixed (tf : String → Except E String) : Step → Prop
    | .command c => KeysFixed tf c ∧ TypeFixed tf c.rem
    | .wait _ c => RemFixed tf c ∧ TypeFixed tf c
    | .input _ c => RemFixed tf c ∧ TypeFixed tf c
    | .trigger c => RemFixed tf c ∧ TypeFixed tf c
    | .group _ _ ss r =>
      RemFixed tf r ∧ TypeFixed tf r ∧ (match ss with | none => True | some l => TreesFixed tf l)
    | .unknown _ => True
  def TreesFixed (tf : String → Except E String) : List Step → Prop
    | [] => True
    | s :: r => TreeFixed tf s ∧ TreesFixed tf r
end

mutual
  /-- The Go-map contents of wait / input / trigger steps have pairwise distinct keys (true of every Go map;
      the list representation does not enforce it). -/
  def MapsNodup : Step → Prop
    | .command _ => True
    | .wait _ c => ((c.getD []).map (·.1)).Nodup
    | .input _ c => ((c.getD []).map (·.1)).Nodup
    | .trigger c => ((c.getD []).map (·.1)).Nodup
    | .group _ _ ss _ => (match ss with | none => True | some l => MapsNodupList l)
    | .unknown _ => True
  def MapsNodupList : List Step → Prop
    | [] => True
    | s :: r => MapsNodup s ∧ MapsNodupList r
end

theorem treeFixed_group_some (tf : String → Except E String) (k : String) (g : Option String) (l : List Step)
    (r : UMap Val) :
    TreeFixed tf (.group k g (some l) r) = (RemFixed tf r ∧ TypeFixed tf r ∧ TreesFixed tf l) := by
  simp [TreeFixed]

theorem mapsNodup_group_some (k : String) (g : Option String) (l : List Step) (r : UMap Val) :
    MapsNodup (.group k g (some l) r) = MapsNodupList l := by
  simp [MapsNodup]

theorem typeFixed_of_none {tf : String → Except E String} {c : UMap Val}
    (h : (c.getD []).lookup "type" = none) : TypeFixed tf c := by
  intro s hs
  rw [h] at hs
  cases hs

/-- A transformer that fixes every string satisfies every `TypeFixed` condition. -/
theorem typeFixed_of_id {tf : String → Except E String} (hid : ∀ s, tf s = .ok s) (c : UMap Val) :
    TypeFixed tf c :=
  fun s _ => hid s

/-! ## Induction over a successful interpolation -/

section Induction
variable (kind : TfKind) (tf : String → Except E String) {P : Step → Step → Prop} {PL : List Step → List Step → Prop}
  (command : ∀ c c₁, interpCommand kind tf c = .ok c₁ → P (.command c) (.command c₁))
  (wait : ∀ sc c c₁, interpUMapV tf c = .ok c₁ → P (.wait sc c) (.wait sc c₁))
  (input : ∀ sc c c₁, interpUMapV tf c = .ok c₁ → P (.input sc c) (.input sc c₁))
  (trigger : ∀ c c₁, interpUMapV tf c = .ok c₁ → P (.trigger c) (.trigger c₁))
  (group_none : ∀ k g r k' g' r', P (.group k g none r) (.group k' g' none r'))
  (group : ∀ k g l r k' g' l₁ r', interpSteps kind tf l = .ok l₁ → interpUMapV tf r = .ok r' → PL l l₁ →
    P (.group k g (some l) r) (.group k' g' (some l₁) r'))
  (unknown : ∀ v v₁, interpVal tf v = .ok v₁ → P (.unknown v) (.unknown v₁))
  (nil : PL [] []) (cons : ∀ s r s₁ r₁, P s s₁ → PL r r₁ → PL (s :: r) (s₁ :: r₁))
include command wait input trigger group_none group unknown nil cons

set_option linter.unusedSectionVars false in
mutual
  theorem interpStep_induction_aux : (s s₁ : Step) → interpStep kind tf s = .ok s₁ → P s s₁
    | .command c, s₁, h => by
      rw [interpStep_command] at h
      obtain ⟨c₁, hc, rfl⟩ := map_eq_ok h
      exact command c c₁ hc
    | .wait sc c, s₁, h => by
      rw [interpStep_wait] at h
      obtain ⟨c₁, hc, rfl⟩ := map_eq_ok h
      exact wait sc c c₁ hc
    | .input sc c, s₁, h => by
      rw [interpStep_input] at h
      obtain ⟨c₁, hc, rfl⟩ := map_eq_ok h
      exact input sc c c₁ hc
    | .trigger c, s₁, h => by
      rw [interpStep_trigger] at h
      obtain ⟨c₁, hc, rfl⟩ := map_eq_ok h
      exact trigger c c₁ hc
    | .group k g none r, s₁, h => by
      rw [interpStep_group_none] at h
      repeat' split at h
      all_goals first | (cases h; exact group_none ..) | cases h
    | .group k g (some l) r, s₁, h => by
      rw [interpStep_group_some] at h
      cases hk : tf k with
      | error e => simp [hk] at h
      | ok k' =>
        cases hg : optM tf g with
        | error e => simp [hk, hg] at h
        | ok g' =>
          cases hl : interpSteps kind tf l with
          | error e => simp [hk, hg, hl] at h
          | ok l₁ =>
            cases hr : interpUMapV tf r with
            | error e => simp [hk, hg, hl, hr] at h
            | ok r' =>
              simp only [hk, hg, hl, hr, Except.ok.injEq] at h
              subst h
              exact group k g l r k' g' l₁ r' hl hr (interpSteps_induction_aux l l₁ hl)
    | .unknown v, s₁, h => by
      rw [interpStep_unknown] at h
      obtain ⟨v₁, hv, rfl⟩ := map_eq_ok h
      exact unknown v v₁ hv
  termination_by structural s => s

  theorem interpSteps_induction_aux : (l l₁ : List Step) → interpSteps kind tf l = .ok l₁ → PL l l₁
    | [], l₁, h => by
      cases h
      exact nil
    | s :: r, l₁, h => by
      rw [interpSteps_cons] at h
      cases hs : interpStep kind tf s with
      | error e => simp [hs] at h
      | ok s₁ =>
        cases hr : interpSteps kind tf r with
        | error e => simp [hs, hr] at h
        | ok r₁ =>
          simp only [hs, hr, Except.ok.injEq] at h
          subst h
          exact cons s r s₁ r₁ (interpStep_induction_aux s s₁ hs) (interpSteps_induction_aux r r₁ hr)
  termination_by structural l => l
end

/-- Induction over a successful interpolation of a step tree: one case per step kind, each with the results of
    the walks `interpStep` made. -/
theorem interp_induction : (∀ s s₁, interpStep kind tf s = .ok s₁ → P s s₁) ∧
    (∀ l l₁, interpSteps kind tf l = .ok l₁ → PL l l₁) :=
  ⟨interpStep_induction_aux kind tf command wait input trigger group_none group unknown nil cons,
    interpSteps_induction_aux kind tf command wait input trigger group_none group unknown nil cons⟩
end Induction

/-! ## Interpolation keeps a step tree well-formed -/

theorem interp_stepOK (tf : String → Except E String) :
    (∀ s s₁, interpStep .env tf s = .ok s₁ → StepOK s → MapsNodup s → TreeFixed tf s →
      StepOK s₁ ∧ stepDepth s₁ = stepDepth s) ∧
    (∀ l l₁, interpSteps .env tf l = .ok l₁ → StepsOK l → MapsNodupList l → TreesFixed tf l →
      StepsOK l₁ ∧ stepsDepth l₁ = stepsDepth l) := by
  apply interp_induction .env tf
  case command =>
    intro c c₁ hc hok _ hfix
    rw [TreeFixed] at hfix
    exact ⟨interpCommand_stepOK tf c c₁ hok hc hfix.1 hfix.2, rfl⟩
  case wait =>
    intro sc c c₁ hc hok hnd hfix
    rw [TreeFixed] at hfix
    rw [MapsNodup] at hnd
    refine ⟨?_, rfl⟩
    rw [StepOK] at hok ⊢
    split
    · rw [if_pos ‹_›] at hok
      exact hok.imp (interpUMapV_nil tf c c₁ hc) (selOf_interp tf c c₁ hnd hfix.1 hfix.2 hc)
    · rwa [if_neg ‹_›] at hok
  case input =>
    intro sc c c₁ hc hok hnd hfix
    rw [TreeFixed] at hfix
    rw [MapsNodup] at hnd
    refine ⟨?_, rfl⟩
    rw [StepOK] at hok ⊢
    split
    · rw [if_pos ‹_›] at hok
      exact selOf_interp tf c c₁ hnd hfix.1 hfix.2 hc hok
    · rwa [if_neg ‹_›] at hok
  case trigger =>
    intro c c₁ hc hok hnd hfix
    rw [TreeFixed] at hfix
    rw [MapsNodup] at hnd
    rw [StepOK] at hok ⊢
    exact ⟨selOf_interp tf c c₁ hnd hfix.1 hfix.2 hc hok, rfl⟩
  case group_none => exact fun k g r _ _ _ hok => absurd hok (stepOK_group_none k g r)
  case group =>
    intro k g l r k' g' l₁ r' _ hr ih hok hnd hfix
    rw [stepOK_group_some] at hok ⊢
    rw [treeFixed_group_some] at hfix
    rw [mapsNodup_group_some] at hnd
    obtain ⟨ih1, ih2⟩ := ih hok.2.2 hnd hfix.2.2
    rw [stepDepth_group_some, stepDepth_group_some, ih2]
    exact ⟨⟨remOK_interp tf _ r r' hok.1 (remSafe_of_fixed hfix.1 fun k hk => hok.1.prim' hk) hr,
      selOf_interp_cons tf r r' (nodup_keys_of_sortedK hok.1.sorted) hfix.1 hfix.2.1 hr "group" .null (by decide)
        hok.2.1, ih1⟩, rfl⟩
  case unknown =>
    intro v v₁ hv hok _ _
    rw [StepOK] at hok
    exact ⟨interpVal_noUMap tf v hok v₁ hv, rfl⟩
  case nil => exact fun _ _ _ => ⟨trivial, rfl⟩
  case cons =>
    intro s r s₁ r₁ ih1 ih2 hok hnd hfix
    rw [StepsOK] at hok ⊢
    rw [MapsNodupList] at hnd
    rw [TreesFixed] at hfix
    obtain ⟨a1, a2⟩ := ih1 hok.1 hnd.1 hfix.1
    obtain ⟨b1, b2⟩ := ih2 hok.2 hnd.2 hfix.2
    rw [stepsDepth, stepsDepth, a2, b2]
    exact ⟨⟨a1, b1⟩, rfl⟩

/-! ### The result of an interpolation always has distinct keys (so the theorem can be iterated) -/

theorem interp_mapsNodup (kind : TfKind) (tf : String → Except E String) :
    (∀ s s₁, interpStep kind tf s = .ok s₁ → MapsNodup s₁) ∧
    (∀ l l₁, interpSteps kind tf l = .ok l₁ → MapsNodupList l₁) := by
  have hc : ∀ c c₁ : UMap Val, interpUMapV tf c = .ok c₁ → ((c₁.getD []).map (·.1)).Nodup := fun c c₁ h =>
    nodup_keys_of_sortedK (interpUMapV_sorted tf c c₁ h)
  apply interp_induction kind tf
  case command => exact fun _ _ _ => trivial
  case wait => exact fun _ => hc
  case input => exact fun _ => hc
  case trigger => exact hc
  case group_none => exact fun _ _ _ _ _ _ => trivial
  case group => exact fun _ _ _ _ _ _ _ _ _ _ h => h
  case unknown => exact fun _ _ _ => trivial
  case nil => exact trivial
  case cons => exact fun _ _ _ _ h1 h2 => ⟨h1, h2⟩

theorem interpSteps_mapsNodup (kind : TfKind) (tf : String → Except E String) : (l l₁ : List Step) →
    interpSteps kind tf l = .ok l₁ → MapsNodupList l₁ :=
  (interp_mapsNodup kind tf).2

end TreeInterp

/-! ## The parser's image has distinct keys -/

theorem parse_mapsNodup : (∀ f x s w, parseStep f x = .ok (s, w) → MapsNodup s) ∧
    (∀ f xs ss ws, parseSteps f xs = .ok (ss, ws) → MapsNodupList ss) := by
  have hsrt : ∀ m : Entries, ((((some (Parse.umapOf m) : UMap Val)).getD []).map (·.1)).Nodup := fun m =>
    nodup_keys_of_sortedK (sortedK_umapOf m)
  apply parse_induction
  case unknown => exact fun _ _ _ => trivial
  case scalarWait => exact fun _ _ _ => List.nodup_nil
  case scalarInput => exact fun _ _ _ => List.nodup_nil
  case command => exact fun _ _ _ _ _ => trivial
  case wait => exact fun _ m _ => hsrt m
  case input => exact fun _ m _ => hsrt m
  case trigger => exact fun _ m _ => hsrt m
  case group =>
    intro f m key grp xs ss _ _ _ ih
    rw [mapsNodup_group_some]
    exact ih
  case nil => exact fun _ => trivial
  case cons => exact fun _ _ _ _ _ _ _ h1 h2 => ⟨h1, h2⟩

/-! ## Parse, then interpolate -/

theorem parse_then_interp_list {E : Type} (f : Nat) (xs : List Val) (l l₁ : List Step) (ws : List Warn)
    (hx : NoUMapList xs) (hd : KeysNodupList xs) (h : parseSteps f xs = .ok (l, ws))
    (tf : String → Except E String) (hi : Interp.interpSteps .env tf l = .ok l₁) (hfix : TreesFixed tf l) :
    StepsOK l₁ ∧ stepsDepth l₁ ≤ f := by
  obtain ⟨hok, hdep⟩ := parseSteps_stepsOK f xs l ws hx hd h
  obtain ⟨h1, h2⟩ := (interp_stepOK tf).2 l l₁ hi hok (parse_mapsNodup.2 f xs l ws h) hfix
  exact ⟨h1, by rw [h2]; exact hdep⟩

/-- `(*Pipeline).Interpolate` (the part after the env block) on a pipeline whose steps were parsed from `xs`. -/
theorem parse_then_interp_pipeline {E : Type} (f : Nat) (xs : List Val) (l : List Step) (ws : List Warn)
    (hx : NoUMapList xs) (hd : KeysNodupList xs) (h : parseSteps f xs = .ok (l, ws))
    (tf : String → Except E String) (p p₁ : Pipeline) (hp : p.steps = some l)
    (hi : Interp.interpPipelineRest tf p = .ok p₁) (hfix : TreesFixed tf l) :
    ∃ l₁, p₁.steps = some l₁ ∧ StepsOK l₁ ∧ stepsDepth l₁ ≤ f := by
  unfold Interp.interpPipelineRest at hi
  rw [hp] at hi
  cases hl : Interp.interpSteps .env tf l with
  | error e => simp [Interp.optM, hl, Except.map] at hi
  | ok l₁ =>
    cases hr : Interp.interpUMapV tf p.rem with
    | error e => simp [Interp.optM, hl, Except.map, hr] at hi
    | ok rem =>
      simp only [Interp.optM, hl, Except.map, hr, Except.ok.injEq] at hi
      subst hi
      exact ⟨l₁, rfl, parse_then_interp_list f xs l l₁ ws hx hd h tf hl hfix⟩

end GoPipeline.SignedRT
