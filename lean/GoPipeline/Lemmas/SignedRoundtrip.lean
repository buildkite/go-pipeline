/-
  C02 — the signed command step still verifies after serialisation and re-parse.

  The signed payload is a function of what `SigSame` records of a step: the command, env and plugins up to the
  C09 normal form, and the marshalled matrix (`matrixField`).  The normal form alone is not enough inside the
  matrix (`"setup":{}` vs `"setup":null`, see `MatrixInnerNonEmpty`), but the round trip returns the matrix
  `MatrixSame` (Lemmas/Roundtrip.lean), which is.  The C09 round trip depends on the typed step only through
  `CommandOK` / `StableCommand`, neither of which mentions the `signature` field, so it applies to the signed
  step `attach … c` and says what the re-parse read for `signature` and `matrix`; C01 (`complete`) does the rest.
  At the end, the equations of `VerifiesAll` that the step-tree inductions use.
-/
import GoPipeline.Model.SignedRoundtrip
import GoPipeline.Lemmas.Signing
import GoPipeline.Lemmas.Roundtrip
namespace GoPipeline.SignedRT
open GoPipeline GoPipeline.Pipe GoPipeline.Parse GoPipeline.Marshal GoPipeline.Signing GoPipeline.Roundtrip
  GoPipeline.Unm

/-! ## The payload sees the normal form only -/

theorem getD_normList {α : Type} (x : Option (List α)) : (normList x).getD [] = x.getD [] := by
  cases x with
  | none => rfl
  | some l => cases l <;> rfl

theorem getD_of_normList {α : Type} {x y : Option (List α)} (h : normList x = normList y) : x.getD [] = y.getD [] := by
  rw [← getD_normList x, h, getD_normList]

theorem envField_normList (e : UMap String) : envField (normList e) = envField e := by
  cases e with
  | none => rfl
  | some l => cases l <;> rfl

theorem mPlugin_normPlugin (p : Plugin) : mPlugin (normPlugin p) = mPlugin p := by
  obtain ⟨src, cfg⟩ := p
  simp only [mPlugin, normPlugin, fullSource_idem src]
  cases cfg with
  | umap kvs => cases kvs <;> rfl
  | seq xs => cases xs <;> rfl
  | _ => rfl

theorem mPluginOpt_norm (p : Option Plugin) : mPluginOpt (p.map normPlugin) = mPluginOpt p := by
  cases p with
  | none => rfl
  | some q => exact mPlugin_normPlugin q

theorem pluginsField_norm (p : Option (List (Option Plugin))) :
    pluginsField (normList (p.map fun l => l.map fun q => q.map normPlugin)) = pluginsField p := by
  cases p with
  | none => rfl
  | some l =>
    cases l with
    | nil => rfl
    | cons a t =>
      show mPlugins ((a :: t).map _) = mPlugins (a :: t)
      rw [mPlugins_eq, mPlugins_eq, List.map_map]
      exact congrArg Val.seq (List.map_congr_left fun b _ => mPluginOpt_norm b)

/-- What the signed payload and the shadowing rule see of a step. -/
structure SigSame (c' c : CommandStep) : Prop where
  command : c'.command = c.command
  env : normList c'.env = normList c.env
  plugins : normList (c'.plugins.map fun l => l.map fun q => q.map normPlugin) =
    normList (c.plugins.map fun l => l.map fun q => q.map normPlugin)
  matrix : matrixField c'.matrix = matrixField c.matrix

theorem fieldValue_of_sigSame {c' c : CommandStep} (h : SigSame c' c) (repo f : String) :
    fieldValue c' repo f = fieldValue c repo f := by
  rw [fieldValue_eq, fieldValue_eq, h.command, h.matrix, ← envField_normList c'.env, h.env, envField_normList,
    ← pluginsField_norm c'.plugins, h.plugins, pluginsField_norm]

theorem valuesForFields_congr {c' c : CommandStep} {repo : String}
    (h : ∀ f, fieldValue c' repo f = fieldValue c repo f) (fields : List String) :
    valuesForFields c' repo fields = valuesForFields c repo fields := by
  have go : ∀ fields acc, valuesForFields.go c' repo fields acc = valuesForFields.go c repo fields acc := by
    intro fields
    induction fields with
    | nil => intro acc; rfl
    | cons g r ih =>
      intro acc
      unfold valuesForFields.go
      rw [h g]
      simp only [ih]
  unfold valuesForFields
  rw [go]

/-- `verify` uses the presented step only through the field values and the step's env names. -/
theorem verify_congr (S : SigScheme) (r : Record S) (pub : S.Pub) {c' c : CommandStep} (repo : String)
    (env : List (String × String)) (hf : ∀ f, fieldValue c' repo f = fieldValue c repo f)
    (he : c'.env.getD [] = c.env.getD []) : verify S r pub c' repo env = verify S r pub c repo env := by
  unfold verify verifyPayload objEnvNames
  rw [valuesForFields_congr hf, he]

theorem verify_of_sigSame (S : SigScheme) (r : Record S) (pub : S.Pub) {c' c : CommandStep} (repo : String)
    (env : List (String × String)) (h : SigSame c' c) : verify S r pub c' repo env = verify S r pub c repo env :=
  verify_congr S r pub repo env (fieldValue_of_sigSame h repo) (getD_of_normList h.env)

/-! ### Marshalled matrix: what it depends on -/

theorem lenUMap_getD {α : Type} (x : UMap α) : lenUMap x = (x.getD []).length := by
  cases x <;> rfl

theorem mAdjustment_congr {a' a : Adjustment} (h1 : a'.with_ = a.with_) (h2 : a'.skip = a.skip)
    (h3 : a'.rem.getD [] = a.rem.getD []) : mAdjustment a' = mAdjustment a := by
  simp only [mAdjustment, inlineFriendly, h1, h2, h3]

theorem matrixField_congr {m' m : Matrix} (h1 : m'.setup = m.setup)
    (h2 : (m'.adjustments.getD []).map mAdjOpt = (m.adjustments.getD []).map mAdjOpt)
    (h3 : m'.rem.getD [] = m.rem.getD []) : matrixField (some m') = matrixField (some m) := by
  have he : (m'.adjustments.getD []).isEmpty = (m.adjustments.getD []).isEmpty := by
    rw [← List.isEmpty_map (f := mAdjOpt), h2, List.isEmpty_map]
  simp only [matrixField, matrixIsEmpty, mMatrix_eq, isSimple, lenUMap_getD m'.rem, lenUMap_getD m.rem, h1, h2, h3, he,
    inlineFriendly]

/-! ### Same normal form, no empty inner containers ⇒ same marshalled matrix -/

theorem normList_of_ne {α : Type} {x : Option (List α)} (h : x ≠ some []) : normList x = x := by
  cases x with
  | none => rfl
  | some l =>
    cases l with
    | nil => exact absurd rfl h
    | cons a t => rfl

theorem mAdjOpt_norm {x : Option Adjustment} (h : ∀ a, x = some a → a.with_ ≠ some []) :
    mAdjOpt (x.map normAdjustment) = mAdjOpt x := by
  cases x with
  | none => rfl
  | some a => exact mAdjustment_congr (normList_of_ne (h a rfl)) rfl (getD_normList a.rem)

/-- With no empty inner container, the signed form of a matrix does not change under `normMatrix`. -/
theorem matrixField_map_norm {c : CommandStep} (h : MatrixInnerNonEmpty c) :
    matrixField (c.matrix.map normMatrix) = matrixField c.matrix := by
  cases hm : c.matrix with
  | none => rfl
  | some m =>
    obtain ⟨h0, hs, ha⟩ := h m hm
    refine matrixField_congr ?_ ?_ (getD_normList m.rem)
    · show normList (m.setup.map fun kvs => kvs.map fun (k, v) => (k, normList v)) = m.setup
      cases hsu : m.setup with
      | none => rfl
      | some kvs =>
        rw [hsu] at hs h0
        have : kvs.map (fun (k, v) => (k, normList v)) = kvs := by
          conv => rhs; rw [← List.map_id kvs]
          exact List.map_congr_left fun (k, v) hkv => congrArg (Prod.mk k) (normList_of_ne (hs (k, v) hkv))
        rw [Option.map_some, this]
        exact normList_of_ne h0
    · show ((normList (m.adjustments.map fun l => l.map fun a => a.map normAdjustment)).getD []).map mAdjOpt = _
      rw [getD_normList]
      cases hadj : m.adjustments with
      | none => rfl
      | some l =>
        rw [hadj] at ha
        simp only [Option.map_some, Option.getD_some, List.map_map] at ha ⊢
        exact List.map_congr_left fun x hx => mAdjOpt_norm fun a e => ha a (e ▸ hx)

theorem sigSame_of_norm {c' c : CommandStep} (h : normCommand c' = normCommand c)
    (ht' : MatrixInnerNonEmpty c') (ht : MatrixInnerNonEmpty c) : SigSame c' c :=
  ⟨(congrArg CommandStep.command h :), (congrArg CommandStep.env h :), (congrArg CommandStep.plugins h :), by
    rw [← matrixField_map_norm ht', ← matrixField_map_norm ht]
    exact congrArg (fun c => matrixField c.matrix) h⟩

/-! ### The round trip keeps the signed matrix

  On either leg the re-parsed matrix is `MatrixSame` as the one written: `setup` and every `with` come back
  exactly (the normal form would forget that), which is all the signed form depends on. -/

theorem mAdjOpt_of_key {l' l : List (Option Adjustment)}
    (h : l'.map (Option.map adjKey) = l.map (Option.map adjKey)) : l'.map mAdjOpt = l.map mAdjOpt := by
  have hf : mAdjOpt = (fun o : Option (UMap String × Val × UMap Val) =>
      mAdjOpt (o.map fun k => { with_ := k.1, skip := k.2.1, rem := k.2.2 })) ∘ Option.map adjKey := by
    funext o
    cases o with
    | none => rfl
    | some a => exact mAdjustment_congr rfl rfl (getD_normList a.rem).symm
  rw [hf, ← List.map_map, h, List.map_map]

theorem matrixField_of_same {m' m : Matrix} (h : MatrixSame m' m) : matrixField (some m') = matrixField (some m) :=
  matrixField_congr h.setup (mAdjOpt_of_key h.adjs) (getD_of_normList h.rem)

/-! ## One command step -/

section Command
variable (S : SigScheme) (render : S.Sig → String) (parseSig : String → Option S.Sig)

theorem commandOK_attach {c : CommandStep} (r : Record S) (h : CommandOK c) : CommandOK (attach S render r c) :=
  ⟨h.plugins, h.env, h.matrix, h.cache, h.rem, h.noCommands⟩

/-- The matrix read back from `enc`'s value is none for none, else some matrix with the same signed form. -/
theorem matrixField_of_reparse {o mx' : Option Matrix} {enc : Matrix → Val}
    (h : (o.map fun m => parseMatrix (rereadJ (enc m))).getD (.ok none) = .ok mx')
    (hrt : ∀ m, o = some m → ∃ m', parseMatrix (rereadJ (enc m)) = .ok (some m') ∧ MatrixSame m' m) :
    matrixField mx' = matrixField o := by
  cases o with
  | none =>
    injection h with h
    rw [← h]
  | some m =>
    obtain ⟨m', hp, hf⟩ := hrt m rfl
    injection hp.symm.trans h with h
    rw [← h, matrixField_of_same hf]

/-- A step that the payload cannot tell from `c` and that carries the signature made for `c` verifies. -/
theorem stepVerifies_of_sigSame (hrender : ∀ s, parseSig (render s) = some s) (c : CommandStep)
    (k : S.Key) (alg repo : String) (penv env₁ : List (String × String)) (henv : EnvExtends penv env₁)
    {c' : CommandStep} (hsame : SigSame c' c)
    (hsig : c'.signature = (attach S render (sign S k alg c repo penv) c).signature) :
    StepVerifies S parseSig (S.pubOf k) repo env₁ c' := by
  refine ⟨_, sign S k alg c repo penv, hsig, by simp [recordOf, hrender], ?_⟩
  rw [verify_of_sigSame S _ (S.pubOf k) repo env₁ hsame]
  exact Signing.complete S k alg c repo penv env₁ henv.1 henv.2.1 (fun name v hmem _ => henv.2.2 name v hmem)

theorem signed_command_core (hrender : ∀ s, parseSig (render s) = some s)
    (c : CommandStep) (hok : CommandOK c) (hs : StableCommand c)
    (k : S.Key) (alg repo : String) (penv env₁ : List (String × String)) (henv : EnvExtends penv env₁) :
    ∃ kvs c', rereadJ (mCommand (attach S render (sign S k alg c repo penv) c)) = .omap kvs ∧
      parseCommand kvs = .ok c' ∧
      c'.signature = (attach S render (sign S k alg c repo penv) c).signature ∧
      StepVerifies S parseSig (S.pubOf k) repo env₁ c' ∧
      kvs.lookup "command" = some (.str c.command) ∧
      ∀ k', k' ∉ cmdOutlineKeys → kvs.lookup k' = (c.rem.getD []).lookup k' := by
  obtain ⟨kvs, c', hU, hp, hn, hcmd, hoth, hsg, hmx⟩ :=
    command_roundtrip_reads _ (commandOK_attach S render (sign S k alg c repo penv) hok) hs
  have hsig : c'.signature = (attach S render (sign S k alg c repo penv) c).signature := by
    injection hsg.symm.trans (signature_roundtrip _)
  refine ⟨kvs, c', hU, hp, hsig, ?_, hcmd, hoth⟩
  refine stepVerifies_of_sigSame S render parseSig hrender c k alg repo penv env₁ henv
    ⟨(congrArg CommandStep.command hn :), (congrArg CommandStep.env hn :), (congrArg CommandStep.plugins hn :), ?_⟩ hsig
  exact matrixField_of_reparse hmx fun m hm => matrix_roundtrip_same m (hok.matrix m hm) (hs.2.2.1 m hm)

end Command

/-! ## `VerifiesAll` unfolded (no automatic equations for the nested `match ss`) -/

section
variable (S : SigScheme) (parseSig : String → Option S.Sig)

theorem verifiesAll_command (pub : S.Pub) (repo : String) (env : List (String × String)) (c : CommandStep) :
    VerifiesAll S parseSig pub repo env (.command c) = StepVerifies S parseSig pub repo env c := by
  simp [VerifiesAll]

theorem verifiesAll_group_some (pub : S.Pub) (repo : String) (env : List (String × String)) (k : String)
    (g : Option String) (l : List Step) (r : UMap Val) :
    VerifiesAll S parseSig pub repo env (.group k g (some l) r) = VerifiesAllList S parseSig pub repo env l := by
  simp [VerifiesAll]

theorem verifiesAllList_nil (pub : S.Pub) (repo : String) (env : List (String × String)) :
    VerifiesAllList S parseSig pub repo env [] = True := by
  simp [VerifiesAllList]

theorem verifiesAllList_cons (pub : S.Pub) (repo : String) (env : List (String × String)) (s : Step) (r : List Step) :
    VerifiesAllList S parseSig pub repo env (s :: r) =
      (VerifiesAll S parseSig pub repo env s ∧ VerifiesAllList S parseSig pub repo env r) := by
  simp [VerifiesAllList]

end

end GoPipeline.SignedRT
