/-
  C09 — the normal form is a fixpoint: lemmas about `Model/Roundtrip.lean` (what re-reading the
  marshalled JSON yields) composed with the parse model and the marshalling model.

  Every struct level is handled the same way. The marshaller writes an outline (a list of optional
  entries, `optE` / `optO`) over the inline map; `reread_inline` describes the re-read image by its
  lookups, `fieldOf_afKey` reads a field of the descriptor as a lookup, and the inline remainder comes
  back (`rem_roundtrip_gen`; `struct_reread_af` packs the three for descriptors without aliases). On top
  of that each struct has one re-parse theorem about its outline, with whatever the two output formats
  write differently left as a parameter; the JSON leg here and the YAML leg in `Lemmas/RoundtripY.lean`
  instantiate them. The induction over the step tree is in `Lemmas/FixpointOK.lean`, for both legs at once.
  The matrix comes back `MatrixSame`, which gives the normal form here and the signed form in
  `Lemmas/SignedRoundtrip.lean`.
-/
import GoPipeline.Model.Roundtrip
import GoPipeline.Lemmas.Unmarshal
import GoPipeline.Lemmas.Assoc
import GoPipeline.Lemmas.StructY
import GoPipeline.Lemmas.Parse13
import GoPipeline.Lemmas.TreeInduction
import GoPipeline.Lemmas.PluginSource
import GoPipeline.Lemmas.PluginSourceIdem
namespace GoPipeline.Roundtrip
open GoPipeline GoPipeline.Pipe GoPipeline.Parse GoPipeline.Marshal GoPipeline.Unm

/-! ## Entry lists

  The generic facts about lookups and Go map stores are in `Lemmas/Assoc.lean`, stated with `Parse.SortedK`,
  the same predicate as `SortedK` here (`sortedK_iff`). -/

def SortedK {α : Type} (l : List (String × α)) : Prop := l.Pairwise (fun p q => p.1 < q.1)

theorem sortedK_iff {α : Type} (l : List (String × α)) : SortedK l ↔ Parse.SortedK l := Iff.rfl

/-! ### `rereadJ` on entry lists -/

theorem rereadJKVs_eq_map : (l : List (String × Val)) → rereadJKVs l = l.map fun p => (p.1, rereadJ p.2)
  | [] => rfl
  | (k, v) :: r => by rw [rereadJKVs, rereadJKVs_eq_map r]; rfl

theorem rereadJList_eq_map : (l : List Val) → rereadJList l = l.map rereadJ
  | [] => rfl
  | v :: r => by rw [rereadJList, rereadJList_eq_map r]; rfl

theorem lookup_rereadJKVs (l : List (String × Val)) (k : String) :
    (rereadJKVs l).lookup k = (l.lookup k).map rereadJ := by
  rw [rereadJKVs_eq_map, lookup_map_val]

theorem keys_rereadJKVs (l : List (String × Val)) : (rereadJKVs l).map (·.1) = l.map (·.1) := by
  rw [rereadJKVs_eq_map, List.map_map]; rfl

theorem sortedK_rereadJKVs {l : List (String × Val)} (h : SortedK l) : SortedK (rereadJKVs l) := by
  rw [rereadJKVs_eq_map]
  unfold SortedK at h ⊢
  rw [List.pairwise_map]
  exact h

theorem noUMapKVs_iff : (l : List (String × Val)) → (NoUMapKVs l ↔ ∀ p ∈ l, NoUMap p.2)
  | [] => by simp [NoUMapKVs]
  | (k, v) :: r => by
    rw [NoUMapKVs, noUMapKVs_iff r]
    simp

theorem noUMapList_iff : (l : List Val) → (NoUMapList l ↔ ∀ p ∈ l, NoUMap p)
  | [] => by simp [NoUMapList]
  | v :: r => by
    rw [NoUMapList, noUMapList_iff r]
    simp

/-! ## Untyped content -/

theorem rereadJList_fix {xs : List Val} (h : ∀ x ∈ xs, rereadJ x = x) : rereadJList xs = xs := by
  rw [rereadJList_eq_map]
  exact (List.map_congr_left h).trans (List.map_id _)

theorem rereadJKVs_fix {kvs : List (String × Val)} (h : ∀ p ∈ kvs, rereadJ p.2 = p.2) : rereadJKVs kvs = kvs := by
  rw [rereadJKVs_eq_map]
  exact (List.map_congr_left fun p hp => by rw [h p hp]; rfl).trans (List.map_id _)

theorem reread_noUMap (v : Val) : NoUMap v → rereadJ v = v := by
  induction v using Val.induction with
  | seq xs ih => exact fun h => by rw [rereadJ, rereadJList_fix fun x hx => ih x hx ((noUMapList_iff xs).1 h x hx)]
  | omap kvs ih => exact fun h => by rw [rereadJ, rereadJKVs_fix fun p hp => ih p hp ((noUMapKVs_iff kvs).1 h p hp)]
  | umap kvs _ => exact fun h => h.elim
  | _ => exact fun _ => by simp [rereadJ]

theorem reread_noUMapList : (xs : List Val) → NoUMapList xs → rereadJList xs = xs :=
  fun xs h => rereadJList_fix fun x hx => reread_noUMap x ((noUMapList_iff xs).1 h x hx)

theorem rereadJKVs_of_forall {l : List (String × Val)} (h : ∀ p ∈ l, NoUMap p.2) : rereadJKVs l = l :=
  rereadJKVs_fix fun p hp => reread_noUMap p.2 (h p hp)

theorem toMapRecKVs_eq_map : (l : List (String × Val)) → toMapRecKVs l = l.map fun p => (p.1, toMapRec p.2)
  | [] => rfl
  | (k, v) :: r => by rw [toMapRecKVs, toMapRecKVs_eq_map r]; rfl

/-- Entries that are `ToMapRecursive` images stable under re-reading: the entry list is rebuilt. -/
theorem toMapRecKVs_reread : (l : List (String × Val)) → (∀ p ∈ l, toMapRec (rereadJ p.2) = p.2) →
    toMapRecKVs (rereadJKVs l) = l
  | [], _ => rfl
  | (k, v) :: r, h => by
    rw [rereadJKVs, toMapRecKVs, h (k, v) List.mem_cons_self,
      toMapRecKVs_reread r (fun p hp => h p (List.mem_cons_of_mem _ hp))]

mutual
  theorem config_roundtrip : (v : Val) → NoUMap v → toMapRec (rereadJ (toMapRec v)) = toMapRec v
    | .null, _ | .bool _, _ | .int _, _ | .float _, _ | .time _, _ | .str _, _ => by simp [toMapRec, rereadJ]
    | .seq xs, h => by
      rw [toMapRec, rereadJ, toMapRec, config_roundtripList xs (by simpa [NoUMap] using h)]
    | .omap kvs, h => by
      have hk := config_roundtripKVs kvs (by simpa [NoUMap] using h)
      rw [toMapRec, rereadJ, toMapRec]
      have hm : ∀ p ∈ Parse.umapOf (toMapRecKVs kvs), toMapRec (rereadJ p.2) = p.2 :=
        fun p hp => hk p (mem_umapOf hp)
      rw [toMapRecKVs_reread _ hm, umapOf_umapOf]
    | .umap _, h => by simp [NoUMap] at h
  theorem config_roundtripList : (xs : List Val) → NoUMapList xs →
      toMapRecList (rereadJList (toMapRecList xs)) = toMapRecList xs
    | [], _ => rfl
    | x :: r, h => by
      rw [NoUMapList] at h
      rw [toMapRecList, rereadJList, toMapRecList, config_roundtrip x h.1, config_roundtripList r h.2]
  theorem config_roundtripKVs : (kvs : List (String × Val)) → NoUMapKVs kvs →
      ∀ p ∈ toMapRecKVs kvs, toMapRec (rereadJ p.2) = p.2
    | [], _ => by simp [toMapRecKVs]
    | (k, v) :: r, h => by
      rw [NoUMapKVs] at h
      intro p hp
      rw [toMapRecKVs] at hp
      rcases List.mem_cons.1 hp with rfl | hp
      · exact config_roundtrip v h.1
      · exact config_roundtripKVs r h.2 p hp
end

/-! ## The struct level -/

theorem lookup_reread_of_noUMap {l : List (String × Val)} (h : ∀ p ∈ l, NoUMap p.2) (k : String) :
    (l.lookup k).map rereadJ = l.lookup k := by
  cases hl : l.lookup k with
  | none => rfl
  | some v =>
    have := h (k, v) (mem_of_lookup hl)
    simp [reread_noUMap v this]

theorem noUMap_of_lookup {l : List (String × Val)} (h : NoUMapKVs l) {k : String} {v : Val}
    (hl : l.lookup k = some v) : NoUMap v :=
  (noUMapKVs_iff l).1 h (k, v) (mem_of_lookup hl)

/-- The re-read image of `inlineFriendlyMarshalJSON`, by lookups: outline entries win, every other key
    reads the inline entry. -/
theorem reread_inline (outline : List (String × Val)) (rem : UMap Val)
    (hout : (outline.map (·.1)).Nodup) (hrem : SortedK (rem.getD [])) (hnu : ∀ p ∈ rem.getD [], NoUMap p.2) :
    ∃ U, rereadJ (inlineFriendly outline rem) = .omap U ∧ SortedK U ∧
      ∀ k, U.lookup k = match outline.lookup k with
        | some v => some (rereadJ v)
        | none => (rem.getD []).lookup k := by
  refine ⟨_, rfl, ?_, ?_⟩
  · rw [marshal_umapOf_eq]
    exact sortedK_rereadJKVs (sortedK_umapOf _)
  · intro k
    rw [lookup_rereadJKVs, marshal_umapOf_eq]
    unfold Parse.umapOf
    rw [List.foldl_append, lookup_foldl_nodup _ _ hout]
    cases ho : outline.lookup k with
    | some v => rfl
    | none =>
      have hk : k ∉ outline.map (·.1) := (lookup_eq_none_iff_keys _ _).1 ho
      have hn' : ((List.filter (fun p => !(outline.map (·.1)).contains p.1) (rem.getD [])).map (·.1)).Nodup :=
        (nodup_keys_of_sortedK hrem).sublist (List.filter_sublist.map _)
      have hp : (!(outline.map (·.1)).contains k) = true := by simpa using hk
      have hl := lookup_filter_key (fun k => !(outline.map (·.1)).contains k) k (rem.getD [])
      rw [if_pos hp] at hl
      simp only []
      rw [lookup_foldl_nodup _ [] hn', hl]
      refine Eq.trans ?_ (lookup_reread_of_noUMap hnu k)
      cases (rem.getD []).lookup k <;> rfl

/-! ### Reading a field of a descriptor as a lookup -/

/-- The yaml key of the field called `n`, provided that field is ordinary, has no alias and no later
    field has the same name. A function, so that for a concrete descriptor a side goal `afKey fs n = some k`
    is closed by evaluation (`by decide +kernel`). -/
def afKey : List Field → String → Option String
  | [], _ => none
  | f :: r, n =>
    if f.name = n then
      (if f.role = .normal ∧ f.aliases = [""] ∧ n ∉ r.map Field.name then some f.key else none)
    else afKey r n

theorem fieldOf_afKey {m : Entries} {n k : String} : {fs : List Field} → afKey fs n = some k →
    fieldOf (taken m fs) n = m.lookup k
  | [], h => by simp [afKey] at h
  | f :: r, h => by
    unfold afKey at h
    by_cases hn : f.name = n
    · rw [if_pos hn] at h
      split at h
      · rename_i hc
        injection h with h
        rw [fieldOf_taken_hit m f r n hn hc.1 hc.2.1 (fieldOf_taken_none hc.2.2), h]
      · cases h
    · rw [if_neg hn] at h
      rw [fieldOf_taken_skip m f r n hn]
      exact fieldOf_afKey h

/-! ### The inline remainder -/

theorem remMap_getD (rest : Entries) : (remMap rest).getD [] = Parse.umapOf rest := by
  unfold remMap
  cases rest with
  | nil => rfl
  | cons p r => rfl

def normalKeys (fs : List Field) : List String := (fs.filter (fun f => f.role == .normal)).map Field.key

theorem declaredKeys_eq (d : List Field) : MarshalY.declaredKeys d = normalKeys d := by
  unfold MarshalY.declaredKeys normalKeys
  induction d with
  | nil => rfl
  | cons f r ih =>
    cases hr : f.role <;> simp [hr, ih]

theorem mem_normalKeys {fs : List Field} {k : String} (h : k ∈ normalKeys fs) :
    ∃ f ∈ fs, f.role = .normal ∧ f.key = k :=
  Order.mem_declaredKeys (declaredKeys_eq fs ▸ h)

theorem mem_normalKeys_of {fs : List Field} {f : Field} (hf : f ∈ fs) (hr : f.role = .normal) :
    f.key ∈ normalKeys fs :=
  List.mem_map_of_mem (List.mem_filter.2 ⟨hf, by simp [hr]⟩)

/-- What the parser guarantees about an inline remainder. -/
structure RemOK (fs : List Field) (rem : UMap Val) : Prop where
  sorted : SortedK (rem.getD [])
  noUMap : ∀ p ∈ rem.getD [], NoUMap p.2
  prim : ∀ f ∈ fs, f.role = .normal → (rem.getD []).lookup f.key = none

theorem mem_keys_umapOf {α : Type} {l : List (String × α)} {k : String} (h : k ∈ (Parse.umapOf l).map (·.1)) :
    k ∈ l.map (·.1) := by
  obtain ⟨p, hp, rfl⟩ := List.mem_map.1 h
  exact List.mem_map_of_mem (mem_umapOf hp)

theorem remOK_remMap (m : Entries) (fs : List Field) (hm : NoUMapKVs m) : RemOK fs (remMap (remainder m fs)) := by
  refine ⟨?_, ?_, ?_⟩
  · rw [remMap_getD]; exact sortedK_umapOf _
  · rw [remMap_getD]
    intro p hp
    have : p ∈ remainder m fs := mem_umapOf hp
    unfold remainder at this
    exact (noUMapKVs_iff m).1 hm p (List.mem_filter.1 this).1
  · intro f hf hr
    rw [lookup_eq_none_iff_keys]
    intro hk
    obtain ⟨p, hp, e⟩ := List.mem_map.1 hk
    exact Order.free_remMap m fs p hp (by rw [declaredKeys_eq, e]; exact mem_normalKeys_of hf hr)

theorem remOK_none (fs : List Field) : RemOK fs none := ⟨List.Pairwise.nil, by simp, by simp⟩

theorem normList_remMap (l : Entries) (rem : UMap Val) (hs : SortedK l) (h : l = rem.getD []) :
    normList (remMap l) = normList rem := by
  subst h
  cases rem with
  | none => rfl
  | some r =>
    cases r with
    | nil => rfl
    | cons a t =>
      have : remMap (a :: t) = some (a :: t) := by
        unfold remMap
        simp only [List.isEmpty_cons, Bool.false_eq_true, if_false]
        rw [umapOf_sorted (show Parse.SortedK (a :: t) from hs)]
      simp only [Option.getD_some, this]

theorem RemOK.prim' {fs : List Field} {rem : UMap Val} (h : RemOK fs rem) {k : String} (hk : k ∈ normalKeys fs) :
    (rem.getD []).lookup k = none := by
  obtain ⟨f, hf, hr, rfl⟩ := mem_normalKeys hk
  exact h.prim f hf hr

theorem RemOK.free {fs : List Field} {rem : UMap Val} (h : RemOK fs rem) : Order.Free fs rem := by
  intro p hp hk
  obtain ⟨v, hv⟩ := mem_keys_lookup_some (List.mem_map_of_mem (f := (·.1)) hp)
  rw [h.prim' (declaredKeys_eq fs ▸ hk)] at hv
  cases hv

theorem afKey_normal {n k : String} : {fs : List Field} → afKey fs n = some k → k ∈ normalKeys fs
  | [], h => by simp [afKey] at h
  | f :: r, h => by
    unfold afKey at h
    by_cases hn : f.name = n
    · rw [if_pos hn] at h
      split at h
      · rename_i hc
        injection h with h
        exact h ▸ mem_normalKeys_of List.mem_cons_self hc.1
      · cases h
    · rw [if_neg hn] at h
      obtain ⟨g, hg, hr, hk⟩ := mem_normalKeys (afKey_normal h)
      exact hk ▸ mem_normalKeys_of (List.mem_cons_of_mem _ hg) hr

/-- Primary key and alias, for every alias of an ordinary field. -/
def aliasPairs (fs : List Field) : List (String × String) :=
  (fs.filter fun f => f.role == .normal).flatMap fun f => (f.aliases.filter (· != "")).map fun a => (f.key, a)

/-- A key that a descriptor takes and that is no primary key is an alias whose primary key is absent. -/
theorem outlineKeys_alias {R : Entries} {fs : List Field} {k : String} (h : k ∈ outlineKeys R fs)
    (hn : k ∉ normalKeys fs) : ∃ p, (p, k) ∈ aliasPairs fs ∧ R.lookup p = none := by
  obtain ⟨f, hf, hr, v, ht⟩ := mem_outlineKeys.1 h
  unfold fieldTake at ht
  cases hp : R.lookup f.key with
  | some w =>
    simp only [hp, Option.some.injEq, Prod.mk.injEq] at ht
    exact absurd (ht.1 ▸ mem_normalKeys_of hf hr) hn
  | none =>
    rw [hp] at ht
    exact ⟨f.key, List.mem_flatMap.2 ⟨f, List.mem_filter.2 ⟨hf, by simp [hr]⟩,
      List.mem_map.2 ⟨k, (firstAlias_some ht).1, rfl⟩⟩, hp⟩

/-- The remainder comes back, descriptors with aliases included: an alias key that the re-parse
    consumes must not be a remainder key. -/
theorem rem_roundtrip_gen (fs : List Field) (outline : List (String × Val)) (g : Val → Val) (rem : UMap Val)
    (hsub : ∀ k ∈ outline.map (·.1), k ∈ normalKeys fs) (hR : RemOK fs rem)
    (R : Entries) (hsR : SortedK R)
    (hl : ∀ k, R.lookup k = match outline.lookup k with
        | some v => some (g v)
        | none => (rem.getD []).lookup k)
    (halias : ∀ k ∈ outlineKeys R fs, k ∉ normalKeys fs → (rem.getD []).lookup k = none) :
    normList (remMap (remainder R fs)) = normList rem := by
  have hs : SortedK (remainder R fs) := sortedK_sublist List.filter_sublist hsR
  apply normList_remMap _ _ hs
  apply sortedK_ext hs hR.sorted
  intro k
  rw [lookup_remainder]
  by_cases hk : k ∈ outlineKeys R fs
  · rw [if_pos hk]
    by_cases hn : k ∈ normalKeys fs
    · exact (hR.prim' hn).symm
    · exact (halias k hk hn).symm
  · rw [if_neg hk, hl]
    cases ho : outline.lookup k with
    | none => rfl
    | some v =>
      obtain ⟨f, hf, hr, rfl⟩ := mem_normalKeys (hsub k (lookup_some_mem_keys ho))
      exact absurd (mem_outlineKeys.2 ⟨f, hf, hr, g v, by simp [fieldTake, hl, ho]⟩) hk

/-- Alias-free descriptors: the remainder comes back whenever the marshaller's outline keys are keys
    of ordinary fields. -/
theorem rem_roundtrip_af (fs : List Field) (haf : aliasFree fs) (outline : List (String × Val)) (rem : UMap Val)
    (hsub : ∀ k ∈ outline.map (·.1), k ∈ normalKeys fs) (hR : RemOK fs rem)
    (U : Entries) (hU : SortedK U)
    (hl : ∀ k, U.lookup k = match outline.lookup k with
        | some v => some (rereadJ v)
        | none => (rem.getD []).lookup k) :
    normList (remMap (remainder U fs)) = normList rem := by
  refine rem_roundtrip_gen fs outline rereadJ rem hsub hR U hU hl fun k hk hn => ?_
  obtain ⟨p, hp, _⟩ := outlineKeys_alias hk hn
  obtain ⟨f, hf, hk'⟩ := List.mem_flatMap.1 hp
  rw [haf f (List.mem_filter.1 hf).1] at hk'
  cases hk'

/-! ### Outlines -/

/-- An `omitempty` outline entry. -/
def optE (b : Bool) (k : String) (v : Val) : List (String × Val) := if b then [] else [(k, v)]

/-- A pointer-typed outline entry. -/
def optO {α : Type} (o : Option α) (k : String) (f : α → Val) : List (String × Val) :=
  match o with
  | none => []
  | some a => [(k, f a)]

theorem keys_optE (b : Bool) (k : String) (v : Val) : ((optE b k v).map (·.1)).Sublist [k] := by
  unfold optE; split <;> simp

theorem keys_optO {α : Type} (o : Option α) (k : String) (f : α → Val) : ((optO o k f).map (·.1)).Sublist [k] := by
  unfold optO; split <;> simp

theorem lookup_optE (b : Bool) (k : String) (v : Val) (k' : String) :
    (optE b k v).lookup k' = if b = true then none else if k' = k then some v else none := by
  unfold optE
  by_cases hb : b = true
  · simp [hb]
  · simp [hb, lookup_cons_if]

theorem lookup_optO {α : Type} (o : Option α) (k : String) (f : α → Val) (k' : String) :
    (optO o k f).lookup k' = if k' = k then o.map f else none := by
  unfold optO
  cases o with
  | none => simp
  | some a => simp [lookup_cons_if]

theorem aliasFree_adj : aliasFree Gen.struct_MatrixAdjustment := by
  intro f hf
  simp only [Gen.struct_MatrixAdjustment, List.mem_cons, List.not_mem_nil, or_false] at hf
  rcases hf with rfl | rfl | rfl <;> rfl

theorem aliasFree_matrix : aliasFree Gen.struct_Matrix := by
  intro f hf
  simp only [Gen.struct_Matrix, List.mem_cons, List.not_mem_nil, or_false] at hf
  rcases hf with rfl | rfl | rfl <;> rfl

theorem aliasFree_cache : aliasFree Gen.struct_Cache := by
  intro f hf
  simp only [Gen.struct_Cache, List.mem_cons, List.not_mem_nil, or_false] at hf
  rcases hf with rfl | rfl | rfl | rfl | rfl <;> rfl

theorem aliasFree_pipeline : aliasFree Gen.struct_Pipeline := by
  intro f hf
  simp only [Gen.struct_Pipeline, List.mem_cons, List.not_mem_nil, or_false] at hf
  rcases hf with rfl | rfl | rfl <;> rfl

/-- The struct level of an alias-free descriptor whose marshaller writes distinct keys of ordinary
    fields: on re-parse every field reads its outline entry and the inline remainder comes back. -/
theorem struct_reread_af {fs : List Field} (haf : aliasFree fs) {O : List (String × Val)} {K : List String}
    (hO : (O.map (·.1)).Sublist K) (hK : K.Nodup) (hKn : ∀ k ∈ K, k ∈ normalKeys fs)
    {rem : UMap Val} (hR : RemOK fs rem) :
    ∃ U, rereadJ (inlineFriendly O rem) = .omap U ∧
      (∀ {n k}, afKey fs n = some k → fieldOf (taken U fs) n = (O.lookup k).map rereadJ) ∧
      normList (remMap (remainder U fs)) = normList rem := by
  obtain ⟨U, hU, hsU, hl⟩ := reread_inline O rem (hK.sublist hO) hR.sorted hR.noUMap
  refine ⟨U, hU, fun h => ?_, rem_roundtrip_af fs haf O rem (fun k hk => hKn k (hO.subset hk)) hR U hsU hl⟩
  rw [fieldOf_afKey h, hl]
  cases O.lookup _ with
  | some v => rfl
  | none => exact hR.prim' (afKey_normal h)

/-! ## Components -/

/-! ### nil and empty lists -/

theorem normList_idem {α : Type} (x : Option (List α)) : normList (normList x) = normList x := by
  cases x with
  | none => rfl
  | some l => cases l <;> rfl

theorem normList_of_getD_nil {α : Type} {x : Option (List α)} (h : x.getD [] = []) : normList x = none := by
  cases x with
  | none => rfl
  | some l => simp only [Option.getD_some] at h; subst h; rfl

theorem mem_getD_nil {α : Type} {x : Option (List α)} {a : α} (h : a ∈ x.getD []) : ∃ l, x = some l ∧ a ∈ l := by
  cases x with
  | none => cases h
  | some l => exact ⟨l, rfl, h⟩

/-! ### Strings, string lists, env -/

theorem strOf_str (s : String) : strOf (.str s) = .ok s := rfl

theorem strsElems_strs : (l : List String) → strsElems (l.map Val.str) = .ok l
  | [] => rfl
  | s :: r => by
    rw [List.map_cons, strsElems, strOf_str]
    simp only [strsElems_strs r, Except.map]

theorem strsOf_strsV (l : List String) : strsOf (strsV l) = .ok (some l) := by
  simp only [strsV, strsOf, strsElems_strs, Except.map]

theorem strsOf_optStrsV (f : Option (List String)) : strsOf (optStrsV f) = .ok f := by
  cases f with
  | none => rfl
  | some l => exact strsOf_strsV l

theorem noUMap_strsV (l : List String) : NoUMap (strsV l) := by
  simp only [strsV, NoUMap]
  rw [noUMapList_iff]
  intro p hp
  obtain ⟨s, _, rfl⟩ := List.mem_map.1 hp
  simp [NoUMap]

theorem reread_strsV (l : List String) : rereadJ (strsV l) = strsV l := reread_noUMap _ (noUMap_strsV l)

theorem reread_optStrsV (f : Option (List String)) : rereadJ (optStrsV f) = optStrsV f := by
  cases f with
  | none => rfl
  | some l => exact reread_strsV l

theorem reread_strKVs (e : List (String × String)) :
    rereadJKVs (e.map fun (k, v) => (k, Val.str v)) = e.map fun (k, v) => (k, Val.str v) := by
  apply rereadJKVs_of_forall
  intro p hp
  obtain ⟨q, _, rfl⟩ := List.mem_map.1 hp
  simp [NoUMap]

theorem ssElems_strs : (e : List (String × String)) → ssElems (e.map fun (k, v) => (k, Val.str v)) = .ok e
  | [] => rfl
  | (k, v) :: r => by
    rw [List.map_cons, ssElems, strOf_str]
    simp only [ssElems_strs r, Except.map]

theorem pipeline_env_roundtrip (e : List (String × String)) :
    parseEnvOrdered (rereadJ (.omap (e.map fun (k, v) => (k, .str v)))) = .ok (some e) := by
  rw [rereadJ, reread_strKVs]
  simp only [parseEnvOrdered, ssElems_strs, Except.map]

theorem parseEnvMap_sorted {v : Val} {e : List (String × String)} (h : parseEnvMap v = .ok (some e)) : SortedK e := by
  cases v <;> try (solve | simp [parseEnvMap] at h)
  case omap kvs =>
    simp only [parseEnvMap, map_ok_iff, Option.some.injEq] at h
    obtain ⟨l, _, rfl⟩ := h
    exact sortedK_umapOf l

theorem env_roundtrip_sorted (e : List (String × String)) (hs : SortedK e) :
    parseEnvMap (rereadJ (envV (some e))) = .ok (some e) := by
  simp only [envV]
  rw [rereadJ, reread_strKVs]
  simp only [parseEnvMap, ssElems_strs, Except.map, umapOf_sorted hs]

/-- A signature object re-parses to the signature, whichever way `signed_fields` was written. -/
theorem signature_reparse (a v : String) (fv : Val) (f : Option (List String)) (hf : strsOf fv = .ok f) :
    parseSignature (.omap [("algorithm", .str a), ("signed_fields", fv), ("value", .str v)]) =
      .ok (some { algorithm := a, signedFields := f, value := v }) := by
  simp only [parseSignature]
  rw [fieldOf_afKey (k := "algorithm") (by decide +kernel), fieldOf_afKey (k := "signed_fields") (by decide +kernel),
    fieldOf_afKey (k := "value") (by decide +kernel)]
  simp [List.lookup, strOf_str, hf]

theorem signature_roundtrip (s : Signature) : parseSignature (rereadJ (mSignature s)) = .ok (some s) := by
  have hr : rereadJ (mSignature s) = .omap [("algorithm", .str s.algorithm),
      ("signed_fields", optStrsV s.signedFields), ("value", .str s.value)] := by
    simp [mSignature, rereadJ, rereadJKVs, reread_optStrsV]
  rw [hr]
  exact signature_reparse _ _ _ _ (strsOf_optStrsV _)

/-! ### Plugins -/

/-- A plugin config in the image of the parser. -/
def CfgOK (c : Val) : Prop := ∃ v, NoUMap v ∧ c = toMapRec v

theorem cfgOK_reread {c : Val} (h : CfgOK c) : toMapRec (rereadJ c) = c := by
  obtain ⟨v, hv, rfl⟩ := h
  exact config_roundtrip v hv

def PluginOK (p : Option Plugin) : Prop := ∃ q, p = some q ∧ CfgOK q.config

theorem pluginsOfMap_ok (kvs : List (String × Val)) (h : NoUMapKVs kvs) : ∀ p ∈ pluginsOfMap kvs, PluginOK p := by
  intro p hp
  unfold pluginsOfMap at hp
  obtain ⟨⟨k, v⟩, hkv, rfl⟩ := List.mem_map.1 hp
  exact ⟨_, rfl, v, (noUMapKVs_iff kvs).1 h _ hkv, rfl⟩

theorem pluginsElems_ok : (xs : List Val) → (l : List (Option Plugin)) → NoUMapList xs → pluginsElems xs = .ok l →
    ∀ p ∈ l, PluginOK p
  | [], l, _, h => by
    simp only [pluginsElems, Except.ok.injEq] at h
    subst h; simp
  | x :: r, l, hx, h => by
    rw [NoUMapList] at hx
    cases x <;> try (solve | simp [pluginsElems] at h)
    case str s =>
      simp only [pluginsElems, map_ok_iff] at h
      obtain ⟨l', hr, rfl⟩ := h
      intro p hp
      rcases List.mem_cons.1 hp with hp | hp
      · exact ⟨_, hp, .null, by simp [NoUMap], rfl⟩
      · exact pluginsElems_ok r l' hx.2 hr p hp
    case omap kvs =>
      simp only [pluginsElems, map_ok_iff] at h
      obtain ⟨l', hr, rfl⟩ := h
      intro p hp
      rcases List.mem_append.1 hp with hp | hp
      · exact pluginsOfMap_ok kvs (by simpa [NoUMap] using hx.1) p hp
      · exact pluginsElems_ok r l' hx.2 hr p hp

theorem parsePlugins_ok {v : Val} {l : List (Option Plugin)} (hv : NoUMap v) (h : parsePlugins v = .ok (some l)) :
    l ≠ [] ∧ ∀ p ∈ l, PluginOK p := by
  obtain ⟨hne, ⟨xs, rfl, hx⟩ | ⟨kvs, rfl, rfl⟩⟩ := parsePlugins_cases h
  · exact ⟨hne, pluginsElems_ok xs _ (by simpa [NoUMap] using hv) hx⟩
  · exact ⟨hne, pluginsOfMap_ok kvs (by simpa [NoUMap] using hv)⟩

theorem plugin_elem_aux (s : String) (c : Val) (r : List Val) :
    pluginsElems (rereadJ (.umap [(s, c)]) :: r) =
      (pluginsElems r).map (some { source := s, config := toMapRec (rereadJ c) } :: ·) := by
  simp only [rereadJ, rereadJKVs, pluginsElems, pluginsOfMap, List.map_cons, List.map_nil]
  rfl

theorem mPlugin_shape (q : Plugin) (hq : CfgOK q.config) :
    ∃ c, mPlugin q = .umap [(fullSource q.source, c)] ∧
      normPlugin q = { source := fullSource q.source, config := c } ∧ toMapRec (rereadJ c) = c := by
  obtain ⟨src, cfg⟩ := q
  have hc := cfgOK_reread hq
  cases cfg with
  | umap kvs =>
    cases kvs with
    | nil => exact ⟨_, rfl, rfl, rfl⟩
    | cons a t => exact ⟨_, rfl, rfl, hc⟩
  | seq xs =>
    cases xs with
    | nil => exact ⟨_, rfl, rfl, rfl⟩
    | cons a t => exact ⟨_, rfl, rfl, hc⟩
  | _ => exact ⟨_, rfl, rfl, hc⟩

def mPluginOpt : Option Plugin → Val
  | none => .null
  | some p => mPlugin p

theorem mPlugins_eq (l : List (Option Plugin)) : mPlugins l = .seq (l.map mPluginOpt) := by
  unfold mPlugins
  congr 1

theorem plugins_elems_roundtrip : (l : List (Option Plugin)) → (∀ p ∈ l, PluginOK p) →
    pluginsElems (rereadJList (l.map mPluginOpt)) = .ok (l.map fun p => p.map normPlugin)
  | [], _ => rfl
  | p :: r, h => by
    obtain ⟨q, rfl, hq⟩ := h p List.mem_cons_self
    obtain ⟨c, hm, hn, hc⟩ := mPlugin_shape q hq
    rw [List.map_cons, rereadJList, mPluginOpt, hm, plugin_elem_aux, hc,
      plugins_elems_roundtrip r (fun p hp => h p (List.mem_cons_of_mem _ hp))]
    simp only [Except.map, List.map_cons, Option.map_some, hn]

theorem plugins_roundtrip_ok (l : List (Option Plugin)) (hne : l ≠ []) (h : ∀ p ∈ l, PluginOK p) :
    parsePlugins (rereadJ (mPlugins l)) = .ok (some (l.map fun p => p.map normPlugin)) := by
  rw [mPlugins_eq, rereadJ]
  simp only [parsePlugins, plugins_elems_roundtrip l h, Except.map]
  cases l with
  | nil => exact absurd rfl hne
  | cons a t => simp

/-! ### Matrix: `setup` and `with` -/

theorem setupElems_strs : (kvs : List (String × Option (List String))) →
    setupElems (kvs.map fun (k, v) => (k, optStrsV v)) = .ok kvs
  | [] => rfl
  | (k, v) :: r => by
    rw [List.map_cons, setupElems, strsOf_optStrsV]
    simp only [setupElems_strs r, Except.map]

theorem reread_setupKVs (kvs : List (String × Option (List String))) :
    rereadJKVs (kvs.map fun (k, v) => (k, optStrsV v)) = kvs.map fun (k, v) => (k, optStrsV v) := by
  apply rereadJKVs_of_forall
  intro p hp
  obtain ⟨q, _, rfl⟩ := List.mem_map.1 hp
  obtain ⟨k, v⟩ := q
  cases v with
  | none => simp [optStrsV, NoUMap]
  | some l => exact noUMap_strsV l

theorem setup_roundtrip (s : UMap (Option (List String))) (hs : ∀ kvs, s = some kvs → SortedK kvs) :
    parseSetup (rereadJ (mSetup s)) = .ok s := by
  cases s with
  | none => rfl
  | some kvs =>
    simp only [mSetup]
    split
    · rename_i x xs
      rw [reread_strsV]
      simp only [strsV, parseSetup, strsOfSeq, strsElems_strs, Except.map]
    · rw [rereadJ, reread_setupKVs]
      simp only [parseSetup, setupElems_strs, Except.map, umapOf_sorted (hs kvs rfl)]

theorem withElems_strs : (kvs : List (String × String)) →
    withElems (kvs.map fun (k, v) => (k, Val.str v)) = .ok kvs
  | [] => rfl
  | (k, v) :: r => by
    rw [List.map_cons, withElems]
    simp only [withScalar, withElems_strs r, Except.map]

theorem with_roundtrip (w : UMap String) (hs : ∀ kvs, w = some kvs → SortedK kvs) :
    parseWith (rereadJ (mWith w)) = .ok w := by
  unfold mWith
  split
  · rfl
  · rfl
  · rename_i kvs _
    rw [rereadJ, reread_strKVs]
    simp only [parseWith, withElems_strs, Except.map, umapOf_sorted (hs kvs rfl)]

/-! ### Matrix: what the parser returns -/

/-- A pointer-typed field that was set was read from an entry. -/
theorem optField_inv {α : Type} {t : List (String × String × Val)} {n : String}
    {f : Val → Except Hard (Option α)} {x : α} (h : optField t n none f = .ok (some x)) :
    ∃ v, fieldOf t n = some v ∧ f v = .ok (some x) := by
  unfold optField at h
  split at h
  · cases h
  · exact ⟨_, ‹_›, h⟩

theorem fieldOf_taken_lookup {m : Entries} {fs : List Field} {n : String} {v : Val}
    (h : fieldOf (taken m fs) n = some v) : ∃ k, m.lookup k = some v := by
  unfold fieldOf at h
  cases hf : (taken m fs).find? (fun x => x.1 == n) with
  | none => simp [hf] at h
  | some x =>
    obtain ⟨a, k, w⟩ := x
    simp only [hf, Option.map_some, Option.some.injEq] at h
    subst h
    exact ⟨k, taken_value fs m a k w (List.mem_of_find?_eq_some hf)⟩

theorem fieldOf_taken_noUMap {m : Entries} {fs : List Field} {n : String} {v : Val} (hm : NoUMapKVs m)
    (h : fieldOf (taken m fs) n = some v) : NoUMap v := by
  obtain ⟨k, hk⟩ := fieldOf_taken_lookup h
  exact noUMap_of_lookup hm hk

theorem parseSetup_sorted {v : Val} {kvs : List (String × Option (List String))}
    (h : parseSetup v = .ok (some kvs)) : SortedK kvs := by
  cases v <;> try (solve | simp [parseSetup] at h)
  case seq xs =>
    simp only [parseSetup, map_ok_iff, Option.some.injEq] at h
    obtain ⟨l, _, rfl⟩ := h
    exact sortedK_singleton _
  case omap m =>
    simp only [parseSetup, map_ok_iff, Option.some.injEq] at h
    obtain ⟨l, _, rfl⟩ := h
    exact sortedK_umapOf l

theorem parseWith_sorted {v : Val} {kvs : List (String × String)}
    (h : parseWith v = .ok (some kvs)) : SortedK kvs := by
  cases v
  case null => simp [parseWith] at h
  case omap m =>
    simp only [parseWith, map_ok_iff, Option.some.injEq] at h
    obtain ⟨l, _, rfl⟩ := h
    exact sortedK_umapOf l
  all_goals
    simp only [parseWith] at h
    split at h
    · cases h
      exact sortedK_singleton _
    · cases h

/-- An adjustment in the image of the parser. -/
structure AdjOK (a : Adjustment) : Prop where
  withSorted : ∀ kvs, a.with_ = some kvs → SortedK kvs
  skip : NoUMap a.skip
  rem : RemOK Gen.struct_MatrixAdjustment a.rem

theorem parseAdjustment_ok {m : Entries} {a : Adjustment} (hm : NoUMapKVs m) (h : parseAdjustment m = .ok a) :
    AdjOK a := by
  obtain ⟨hw, hs, hr⟩ := parseAdjustment_cases h
  refine ⟨fun kvs hk => ?_, ?_, hr ▸ remOK_remMap m _ hm⟩
  · obtain ⟨v, _, hv⟩ := optField_inv (hk ▸ hw)
    exact parseWith_sorted hv
  · rw [hs]
    cases hf : fieldOf (taken m Gen.struct_MatrixAdjustment) "Skip" with
    | none => trivial
    | some v => exact fieldOf_taken_noUMap hm hf

theorem adjustmentsElems_ok : (xs : List Val) → (l : List (Option Adjustment)) → NoUMapList xs →
    adjustmentsElems xs = .ok l → ∀ a, some a ∈ l → AdjOK a
  | [], l, _, h => by
    simp only [adjustmentsElems, Except.ok.injEq] at h
    subst h; simp
  | x :: r, l, hx, h => by
    rw [NoUMapList] at hx
    cases x <;> try (solve | simp [adjustmentsElems] at h)
    case null =>
      simp only [adjustmentsElems, map_ok_iff] at h
      obtain ⟨l', hr, rfl⟩ := h
      intro a ha
      rcases List.mem_cons.1 ha with ha | ha
      · cases ha
      · exact adjustmentsElems_ok r l' hx.2 hr a ha
    case omap m =>
      simp only [adjustmentsElems] at h
      split at h
      · cases h
      · rename_i a0 ha0
        simp only [map_ok_iff] at h
        obtain ⟨l', hr, rfl⟩ := h
        intro a ha
        rcases List.mem_cons.1 ha with ha | ha
        · injection ha with ha
          subst ha
          exact parseAdjustment_ok (by simpa [NoUMap] using hx.1) ha0
        · exact adjustmentsElems_ok r l' hx.2 hr a ha

/-- A matrix in the image of the parser. -/
structure MatrixOK (m : Matrix) : Prop where
  setupSorted : ∀ kvs, m.setup = some kvs → SortedK kvs
  adjs : ∀ l, m.adjustments = some l → ∀ a, some a ∈ l → AdjOK a
  rem : RemOK Gen.struct_Matrix m.rem

theorem parseMatrix_ok {v : Val} {m : Matrix} (hv : NoUMap v) (h : parseMatrix v = .ok (some m)) : MatrixOK m := by
  rcases parseMatrix_cases h with ⟨xs, l, _, _, rfl⟩ | ⟨mm, rfl, hs, ha, hr⟩
  · exact ⟨fun kvs hk => by cases hk; exact sortedK_singleton _, (fun l hl => nomatch hl), remOK_none _⟩
  have hmm : NoUMapKVs mm := by simpa [NoUMap] using hv
  refine ⟨fun kvs hk => ?_, fun l hl a hal => ?_, hr ▸ remOK_remMap mm _ hmm⟩
  · obtain ⟨v, _, hv⟩ := optField_inv (hk ▸ hs)
    exact parseSetup_sorted hv
  · obtain ⟨v, hf, hv⟩ := optField_inv (hl ▸ ha)
    have hvv := fieldOf_taken_noUMap hmm hf
    cases v <;> try (solve | simp [parseAdjustments] at hv)
    case seq xs =>
      simp only [parseAdjustments, map_ok_iff, Option.some.injEq] at hv
      obtain ⟨l', hl', rfl⟩ := hv
      exact adjustmentsElems_ok xs _ (by simpa [NoUMap] using hvv) hl' a hal

/-! ### Matrix: re-parse -/

theorem emptyish_null {v : Val} (h1 : emptyishSkip v = false) (h2 : isEmptyAny v = true) : v = .null := by
  cases v <;> simp_all [emptyishSkip]

/-- The outline of an adjustment; the legs differ in when `skip` is left out (`b`). -/
def adjOutline (b : Bool) (a : Adjustment) : List (String × Val) :=
  [("with", mWith a.with_)] ++ optE b "skip" a.skip

theorem adjOutline_keys (b : Bool) (a : Adjustment) : ((adjOutline b a).map (·.1)).Sublist ["with", "skip"] :=
  (keys_optE _ _ _).cons_cons _

/-- An adjustment whose `skip` is left out only when nil re-parses to itself, up to the remainder. -/
theorem adjustment_reparse (a : Adjustment) (hok : AdjOK a) (b : Bool) (hb : b = true → a.skip = .null) :
    ∃ U, rereadJ (inlineFriendly (adjOutline b a) a.rem) = .omap U ∧
      parseAdjustment U = .ok { a with rem := remMap (remainder U Gen.struct_MatrixAdjustment) } ∧
      normList (remMap (remainder U Gen.struct_MatrixAdjustment)) = normList a.rem := by
  obtain ⟨U, hU, hf, hrem⟩ := struct_reread_af aliasFree_adj (adjOutline_keys b a) (by decide +kernel) (by decide +kernel) hok.rem
  refine ⟨U, hU, ?_, hrem⟩
  have hw : fieldOf (taken U Gen.struct_MatrixAdjustment) "With" = some (rereadJ (mWith a.with_)) := by
    rw [hf (k := "with") (by decide +kernel)]
    rfl
  have hs : (fieldOf (taken U Gen.struct_MatrixAdjustment) "Skip").getD .null = a.skip := by
    rw [hf (k := "skip") (by decide +kernel)]
    simp only [adjOutline, List.lookup_append, lookup_optE, lookup_cons_if, List.lookup_nil]
    cases b with
    | true => simp [hb rfl]
    | false => simp [reread_noUMap _ hok.skip]
  simp only [parseAdjustment, hw, hs, with_roundtrip a.with_ hok.withSorted]

def mAdjOpt : Option Adjustment → Val
  | none => .null
  | some a => mAdjustment a

/-- The value of an adjustment entry; `b` says when `skip` is left out. -/
def adjV (b : Adjustment → Bool) : Option Adjustment → Val
  | none => .null
  | some a => inlineFriendly (adjOutline (b a) a) a.rem

theorem mAdjOpt_eq : mAdjOpt = adjV fun a => isEmptyAny a.skip := by
  funext o
  cases o <;> rfl

/-- What of an adjustment the round trip keeps exactly: all but the way an empty remainder is held. -/
def adjKey (a : Adjustment) : UMap String × Val × UMap Val := (a.with_, a.skip, normList a.rem)

theorem normAdjustment_of_key {l' l : List (Option Adjustment)}
    (h : l'.map (Option.map adjKey) = l.map (Option.map adjKey)) :
    l'.map (fun a => a.map normAdjustment) = l.map (fun a => a.map normAdjustment) := by
  have hf : (fun a : Option Adjustment => a.map normAdjustment) =
      Option.map (fun k : UMap String × Val × UMap Val => { with_ := normList k.1, skip := k.2.1, rem := k.2.2 }) ∘
        Option.map adjKey := by
    funext a
    cases a <;> rfl
  rw [hf, ← List.map_map, h, List.map_map]

theorem adjustments_reparse (b : Adjustment → Bool) : (l : List (Option Adjustment)) →
    (∀ a, some a ∈ l → AdjOK a ∧ (b a = true → a.skip = .null)) →
    ∃ l', adjustmentsElems (rereadJList (l.map (adjV b))) = .ok l' ∧
      l'.map (Option.map adjKey) = l.map (Option.map adjKey)
  | [], _ => ⟨[], rfl, rfl⟩
  | none :: r, h => by
    obtain ⟨l', h1, h2⟩ := adjustments_reparse b r (fun a ha => h a (List.mem_cons_of_mem _ ha))
    refine ⟨none :: l', ?_, by simp [h2]⟩
    simp only [List.map_cons, rereadJList, adjV, rereadJ, adjustmentsElems, h1, Except.map]
  | some a :: r, h => by
    obtain ⟨l', h1, h2⟩ := adjustments_reparse b r (fun a ha => h a (List.mem_cons_of_mem _ ha))
    obtain ⟨U, hU, hp, hn⟩ := adjustment_reparse a (h a List.mem_cons_self).1 (b a) (h a List.mem_cons_self).2
    refine ⟨some { a with rem := remMap (remainder U Gen.struct_MatrixAdjustment) } :: l', ?_,
      by simp [h2, adjKey, hn]⟩
    rw [List.map_cons, rereadJList, adjV, hU, adjustmentsElems, hp, h1]
    rfl

theorem isSimple_inv {m : Matrix} (h : isSimple m = true) :
    ∃ x xs, m.setup = some [("", some (x :: xs))] ∧ m.adjustments.getD [] = [] ∧ m.rem.getD [] = [] := by
  unfold isSimple at h
  simp only [Bool.and_eq_true] at h
  obtain ⟨⟨h1, h2⟩, h3⟩ := h
  split at h1
  · rename_i x xs hs
    refine ⟨x, xs, hs, by simpa using h2, ?_⟩
    cases hr : m.rem with
    | none => rfl
    | some l =>
      rw [hr] at h3
      simpa [lenUMap] using h3
  · cases h1

theorem mMatrix_eq (m : Matrix) : mMatrix m =
    if isSimple m then mSetup m.setup
    else inlineFriendly ([("setup", mSetup m.setup)] ++
      (if (m.adjustments.getD []).isEmpty then []
       else [("adjustments", .seq ((m.adjustments.getD []).map mAdjOpt))])) m.rem := rfl

/-- What of a matrix the round trip keeps exactly: `setup`, the adjustments up to `adjKey`, and all but the
    way empty lists are held. -/
structure MatrixSame (m' m : Matrix) : Prop where
  setup : m'.setup = m.setup
  adjs : (m'.adjustments.getD []).map (Option.map adjKey) = (m.adjustments.getD []).map (Option.map adjKey)
  rem : normList m'.rem = normList m.rem

theorem normList_map_of_getD {α β : Type} {x y : Option (List α)} (g : α → β)
    (h : (x.getD []).map g = (y.getD []).map g) : normList (x.map (List.map g)) = normList (y.map (List.map g)) := by
  have key : ∀ z : Option (List α), normList (z.map (List.map g)) =
      match (z.getD []).map g with
      | [] => none
      | l => some l := by
    intro z
    cases z with
    | none => rfl
    | some l => cases l <;> rfl
  rw [key, key, h]

theorem normMatrix_of_same {m' m : Matrix} (h : MatrixSame m' m) : normMatrix m' = normMatrix m := by
  simp only [normMatrix, h.setup, h.rem, normList_map_of_getD _ (normAdjustment_of_key h.adjs)]

/-- The outline of a matrix in its long form; `avs` are the values of its adjustments. -/
def mxOutline (m : Matrix) (avs : List Val) : List (String × Val) :=
  [("setup", mSetup m.setup)] ++ optE (m.adjustments.getD []).isEmpty "adjustments" (.seq avs)

theorem mxOutline_keys (m : Matrix) (avs : List Val) : ((mxOutline m avs).map (·.1)).Sublist ["setup", "adjustments"] :=
  (keys_optE _ _ _).cons_cons _

/-- The long form of a matrix re-parses to the matrix as soon as the adjustment values do: `setup` comes
    back as it is, the adjustments as the re-parsed ones, the remainder up to `normList`. -/
theorem matrix_reparse (m : Matrix) (hok : MatrixOK m) (avs : List Val) (l' : List (Option Adjustment))
    (h1 : adjustmentsElems (rereadJList avs) = .ok l') :
    ∃ U, rereadJ (inlineFriendly (mxOutline m avs) m.rem) = .omap U ∧
      parseMatrix (.omap U) = .ok (some
        { setup := m.setup, adjustments := if (m.adjustments.getD []).isEmpty then none else some l',
          rem := remMap (remainder U Gen.struct_Matrix) }) ∧
      normList (remMap (remainder U Gen.struct_Matrix)) = normList m.rem := by
  obtain ⟨U, hU, hf, hrem⟩ := struct_reread_af aliasFree_matrix (mxOutline_keys m avs) (by decide +kernel) (by decide +kernel) hok.rem
  have hs : fieldOf (taken U Gen.struct_Matrix) "Setup" = some (rereadJ (mSetup m.setup)) := by
    rw [hf (k := "setup") (by decide +kernel)]
    rfl
  have ha : fieldOf (taken U Gen.struct_Matrix) "Adjustments" =
      if (m.adjustments.getD []).isEmpty = true then none else some (.seq (rereadJList avs)) := by
    rw [hf (k := "adjustments") (by decide +kernel)]
    simp only [mxOutline, List.lookup_append, lookup_optE, lookup_cons_if, List.lookup_nil]
    cases (m.adjustments.getD []).isEmpty <;> simp [rereadJ]
  refine ⟨U, hU, ?_, hrem⟩
  simp only [parseMatrix, hs, ha, setup_roundtrip m.setup hok.setupSorted]
  cases (m.adjustments.getD []).isEmpty
  · simp only [Bool.false_eq_true, if_false, parseAdjustments, h1, Except.map]
  · rfl

/-- The value both legs write for a matrix: the list of the anonymous dimension in the short form, else the
    struct; `b` says when an adjustment's `skip` is left out. -/
def matrixV (b : Adjustment → Bool) (m : Matrix) : Val :=
  if isSimple m then mSetup m.setup
  else inlineFriendly (mxOutline m ((m.adjustments.getD []).map (adjV b))) m.rem

theorem mMatrix_eq_matrixV (m : Matrix) : mMatrix m = matrixV (fun a => isEmptyAny a.skip) m := by
  rw [mMatrix_eq, mAdjOpt_eq]
  rfl

/-- The matrix comes back, whichever leg wrote it, provided only a nil `skip` was left out. -/
theorem matrixV_reparse (b : Adjustment → Bool) (m : Matrix) (hok : MatrixOK m)
    (hb : ∀ a, some a ∈ m.adjustments.getD [] → b a = true → a.skip = .null) :
    ∃ m', parseMatrix (rereadJ (matrixV b m)) = .ok (some m') ∧ MatrixSame m' m := by
  unfold matrixV
  by_cases hsimp : isSimple m = true
  · obtain ⟨x, xs, hs, ha, hr⟩ := isSimple_inv hsimp
    rw [if_pos hsimp, hs]
    refine ⟨{ setup := some [("", some (x :: xs))], adjustments := none, rem := none }, ?_,
      hs.symm, by rw [ha]; rfl, (normList_of_getD_nil hr).symm⟩
    simp only [mSetup]
    rw [reread_strsV]
    simp only [strsV, parseMatrix, strsOfSeq, strsElems_strs, Except.map]
  · rw [if_neg hsimp]
    obtain ⟨l', h1, h2⟩ := adjustments_reparse b (m.adjustments.getD []) fun a ha =>
      let ⟨l, hl, hal⟩ := mem_getD_nil ha
      ⟨hok.adjs l hl a hal, hb a ha⟩
    obtain ⟨U, hU, hp, hrem⟩ := matrix_reparse m hok _ l' h1
    refine ⟨{ setup := m.setup, adjustments := if (m.adjustments.getD []).isEmpty then none else some l',
              rem := remMap (remainder U Gen.struct_Matrix) }, hU ▸ hp, rfl, ?_, hrem⟩
    cases he : (m.adjustments.getD []).isEmpty with
    | true =>
      rw [List.isEmpty_iff.1 he]
      rfl
    | false => exact h2

theorem matrix_roundtrip_same (m : Matrix) (hok : MatrixOK m) (hst : StableMatrix m) :
    ∃ m', parseMatrix (rereadJ (mMatrix m)) = .ok (some m') ∧ MatrixSame m' m :=
  mMatrix_eq_matrixV m ▸ matrixV_reparse _ m hok fun a ha =>
    let ⟨l, hl, hal⟩ := mem_getD_nil ha
    emptyish_null (hst.1 l hl a hal).1

/-! ### Cache -/

theorem parseCache_ok {v : Val} {c : Cache} (hv : NoUMap v) (h : parseCache v = .ok (some c)) :
    RemOK Gen.struct_Cache c.rem := by
  rcases parseCache_cases h with ⟨b, _, rfl⟩ | ⟨s, _, rfl⟩ | ⟨xs, l, _, _, rfl⟩ | ⟨m, rfl, _, _, _, _, hr⟩
  · exact remOK_none _
  · exact remOK_none _
  · exact remOK_none _
  · exact hr ▸ remOK_remMap m _ (by simpa [NoUMap] using hv)

def cacheOutline (c : Cache) : List (String × Val) :=
  optE (!c.disabled) "disabled" (.bool true) ++ optE (c.name == "") "name" (.str c.name) ++
    optE (c.paths.getD []).isEmpty "paths" (strsV (c.paths.getD [])) ++ optE (c.size == "") "size" (.str c.size)

theorem mCache_eq (c : Cache) : mCache c =
    if c.disabled && c.name == "" && (c.paths.getD []).isEmpty && c.size == "" && (c.rem.getD []).isEmpty
    then .bool false else inlineFriendly (cacheOutline c) c.rem := by
  obtain ⟨d, n, p, s, r⟩ := c
  cases d <;> rfl

theorem cacheOutline_keys (c : Cache) : ((cacheOutline c).map (·.1)).Sublist ["disabled", "name", "paths", "size"] := by
  unfold cacheOutline
  simp only [List.map_append]
  exact (((keys_optE _ _ _).append (keys_optE _ _ _)).append (keys_optE _ _ _)).append (keys_optE _ _ _)

theorem cacheOutline_lookups (c : Cache) :
    (cacheOutline c).lookup "disabled" = (if (!c.disabled) = true then none else some (.bool true)) ∧
    (cacheOutline c).lookup "name" = (if (c.name == "") = true then none else some (.str c.name)) ∧
    (cacheOutline c).lookup "paths" =
      (if (c.paths.getD []).isEmpty = true then none else some (strsV (c.paths.getD []))) ∧
    (cacheOutline c).lookup "size" = (if (c.size == "") = true then none else some (.str c.size)) := by
  unfold cacheOutline
  simp only [List.lookup_append, lookup_optE, String.reduceEq, if_false, if_true, ite_self, Option.or_none,
    Option.none_or, and_self]

/-- An `omitempty` string field reads back as the string, absent or not. -/
theorem strOf_omitempty (s : String) :
    strOf (((if (s == "") = true then none else some (Val.str s)).map rereadJ).getD (.str "")) = .ok s := by
  by_cases h : s = ""
  · subst h; rfl
  · simp [h, rereadJ, strOf_str]

/-- The object form of a cache (both legs write it) re-parses to the cache. -/
theorem cache_reparse (c : Cache) (hR : RemOK Gen.struct_Cache c.rem) :
    ∃ c', parseCache (rereadJ (inlineFriendly (cacheOutline c) c.rem)) = .ok (some c') ∧
      normCache c' = normCache c := by
  obtain ⟨U, hU, hf, hrem⟩ := struct_reread_af aliasFree_cache (cacheOutline_keys c) (by decide +kernel) (by decide +kernel) hR
  obtain ⟨od, on, op, os⟩ := cacheOutline_lookups c
  refine ⟨{ c with paths := normList c.paths, rem := remMap (remainder U Gen.struct_Cache) }, ?_, ?_⟩
  · have hd : boolOf ((fieldOf (taken U Gen.struct_Cache) "Disabled").getD (.bool false)) = .ok c.disabled := by
      rw [hf (k := "disabled") (by decide +kernel), od]
      cases c.disabled <;> rfl
    have hn : strOf ((fieldOf (taken U Gen.struct_Cache) "Name").getD (.str "")) = .ok c.name := by
      rw [hf (k := "name") (by decide +kernel), on]
      exact strOf_omitempty _
    have hp : strsOf ((fieldOf (taken U Gen.struct_Cache) "Paths").getD .null) = .ok (normList c.paths) := by
      rw [hf (k := "paths") (by decide +kernel), op]
      cases c.paths with
      | none => rfl
      | some l =>
        cases l with
        | nil => rfl
        | cons a t => simp [reread_strsV, strsOf_strsV, normList]
    have hs : strOf ((fieldOf (taken U Gen.struct_Cache) "Size").getD (.str "")) = .ok c.size := by
      rw [hf (k := "size") (by decide +kernel), os]
      exact strOf_omitempty _
    rw [hU]
    simp only [parseCache, hd, hn, hp, hs]
  · simp only [normCache, normList_idem, hrem]

theorem cache_roundtrip_ok (c : Cache) (hR : RemOK Gen.struct_Cache c.rem) :
    ∃ c', parseCache (rereadJ (mCache c)) = .ok (some c') ∧ normCache c' = normCache c := by
  rw [mCache_eq]
  split
  · -- nothing but `disabled: true`: written as `false`, which reads back as a disabled cache
    rename_i hc
    simp only [Bool.and_eq_true, beq_iff_eq, List.isEmpty_iff] at hc
    obtain ⟨⟨⟨⟨hd, h1⟩, h2⟩, h3⟩, h4⟩ := hc
    refine ⟨{ disabled := true, name := "", paths := none, size := "", rem := none }, rfl, ?_⟩
    obtain ⟨d, n, p, s, r⟩ := c
    simp only at hd h1 h3 h2 h4
    subst hd h1 h3
    simp only [normCache, normList_of_getD_nil h2, normList_of_getD_nil h4]
    rfl
  · -- an object; `disabled: true` (if set) is written next to the other settings and is claimed by
    -- the struct field on re-parse (it is a key of an ordinary field, so it cannot be in `rem`)
    exact cache_reparse c hR

/-! ## Normalisation is idempotent

  `normPlugin` rewrites the source to `fullSource`, which is idempotent for every string
  (`Marshal.fullSource_idem`, Lemmas/PluginSourceIdem.lean; finding F17, fixed in the code, commit 3ced888:
  `FullSource` concatenates instead of calling `path.Join`). -/

theorem normList_map_idem {α : Type} (g : α → α) (x : Option (List α)) (hg : ∀ a ∈ x.getD [], g (g a) = g a) :
    normList ((normList (x.map fun l => l.map g)).map fun l => l.map g) = normList (x.map fun l => l.map g) := by
  cases x with
  | none => rfl
  | some l =>
    cases l with
    | nil => rfl
    | cons a t =>
      simp only [Option.map_some, List.map_cons, normList, List.map_map]
      simp only [Option.getD_some] at hg
      rw [hg a List.mem_cons_self]
      have : List.map (g ∘ g) t = List.map g t := by
        apply List.map_congr_left
        intro b hb
        exact hg b (List.mem_cons_of_mem _ hb)
      rw [this]

theorem normPlugin_idem (p : Plugin) : normPlugin (normPlugin p) = normPlugin p := by
  obtain ⟨src, cfg⟩ := p
  simp only [normPlugin, fullSource_idem src]
  congr 1
  cases cfg with
  | umap kvs => cases kvs <;> rfl
  | seq xs => cases xs <;> rfl
  | _ => rfl

theorem normAdjustment_idem (a : Adjustment) : normAdjustment (normAdjustment a) = normAdjustment a := by
  simp only [normAdjustment, normList_idem]

theorem normMatrix_idem (m : Matrix) : normMatrix (normMatrix m) = normMatrix m := by
  simp only [normMatrix, normList_idem]
  congr 1
  · exact normList_map_idem (fun (x : String × Option (List String)) => (x.1, normList x.2)) m.setup
      (fun a _ => by simp only [normList_idem])
  · exact normList_map_idem (fun a => Option.map normAdjustment a) m.adjustments
      (fun a _ => by cases a <;> simp [normAdjustment_idem])

theorem normCache_idem (c : Cache) : normCache (normCache c) = normCache c := by
  simp only [normCache, normList_idem]

theorem normCommand_idem (c : CommandStep) : normCommand (normCommand c) = normCommand c := by
  simp only [normCommand, normList_idem]
  congr 1
  · apply normList_map_idem (fun p => Option.map normPlugin p) c.plugins
    intro a _
    cases a with
    | none => rfl
    | some p =>
      simp only [Option.map_some]
      rw [normPlugin_idem p]
  · cases c.signature <;> simp [normList_idem]
  · cases c.matrix <;> simp [normMatrix_idem]
  · cases c.cache <;> simp [normCache_idem]

mutual
  theorem normStep_idem : (s : Step) → normStep (normStep s) = normStep s
    | .command c => by
      rw [normStep, normStep, normCommand_idem c]
    | .wait s c => by rw [normStep, normStep, normList_idem]
    | .input s c => by rw [normStep, normStep, normList_idem]
    | .trigger c => by rw [normStep, normStep, normList_idem]
    | .group k g none r => by
      simp only [normStep, normSteps, normList_idem]
    | .group k g (some l) r => by
      simp only [normStep, normList_idem, normSteps_idem l]
    | .unknown v => by rw [normStep, normStep]
  theorem normSteps_idem : (l : List Step) → normSteps (normSteps l) = normSteps l
    | [] => rfl
    | s :: r => by
      rw [normSteps, normSteps, normStep_idem s, normSteps_idem r]
end

/-! ## The command step -/

/-- The outline of a command step; the legs differ in how signature, matrix and cache are written. -/
def cmdOutlineWith (fS : Signature → Val) (fM : Matrix → Val) (fC : Cache → Val) (c : CommandStep) :
    List (String × Val) :=
  optE (c.key == "") "key" (.str c.key) ++ optE (c.label == "") "label" (.str c.label) ++
  [("command", .str c.command)] ++
  optE (c.plugins.getD []).isEmpty "plugins" (mPlugins (c.plugins.getD [])) ++
  optE (lenUMap c.env == 0) "env" (envV c.env) ++
  optO c.signature "signature" fS ++ optO c.matrix "matrix" fM ++ optO c.cache "cache" fC

def cmdOutline (c : CommandStep) : List (String × Val) := cmdOutlineWith mSignature mMatrix mCache c

theorem mCommand_eq (c : CommandStep) : mCommand c = inlineFriendly (cmdOutline c) c.rem := by
  obtain ⟨key, label, command, plugins, env, sig, matrix, cache, rem⟩ := c
  cases sig <;> cases matrix <;> cases cache <;> rfl

def cmdOutlineKeys : List String := ["key", "label", "command", "plugins", "env", "signature", "matrix", "cache"]

theorem cmdOutlineWith_keys (fS : Signature → Val) (fM : Matrix → Val) (fC : Cache → Val) (c : CommandStep) :
    ((cmdOutlineWith fS fM fC c).map (·.1)).Sublist cmdOutlineKeys := by
  unfold cmdOutlineWith
  simp only [List.map_append]
  exact (((((((keys_optE _ _ _).append (keys_optE _ _ _)).append (List.Sublist.refl _)).append
    (keys_optE _ _ _)).append (keys_optE _ _ _)).append (keys_optO _ _ _)).append (keys_optO _ _ _)).append
    (keys_optO _ _ _)

theorem cmdOutlineWith_lookups (fS : Signature → Val) (fM : Matrix → Val) (fC : Cache → Val) (c : CommandStep) :
    (cmdOutlineWith fS fM fC c).lookup "key" = (if (c.key == "") = true then none else some (.str c.key)) ∧
    (cmdOutlineWith fS fM fC c).lookup "label" = (if (c.label == "") = true then none else some (.str c.label)) ∧
    (cmdOutlineWith fS fM fC c).lookup "command" = some (.str c.command) ∧
    (cmdOutlineWith fS fM fC c).lookup "plugins" =
      (if (c.plugins.getD []).isEmpty = true then none else some (mPlugins (c.plugins.getD []))) ∧
    (cmdOutlineWith fS fM fC c).lookup "env" = (if (lenUMap c.env == 0) = true then none else some (envV c.env)) ∧
    (cmdOutlineWith fS fM fC c).lookup "signature" = c.signature.map fS ∧
    (cmdOutlineWith fS fM fC c).lookup "matrix" = c.matrix.map fM ∧
    (cmdOutlineWith fS fM fC c).lookup "cache" = c.cache.map fC := by
  unfold cmdOutlineWith
  simp only [List.lookup_append, lookup_optE, lookup_optO, lookup_cons_if, List.lookup_nil, String.reduceEq, if_false,
    if_true, ite_self, Option.or_none, Option.none_or, and_self]

theorem cmdOutlineWith_nodup (fS : Signature → Val) (fM : Matrix → Val) (fC : Cache → Val) (c : CommandStep) :
    ((cmdOutlineWith fS fM fC c).map (·.1)).Nodup :=
  List.Nodup.sublist (cmdOutlineWith_keys fS fM fC c) (by decide +kernel)

/-! ### What `parseCommand` guarantees -/

theorem lookup_remainder_prim {m : Entries} {fs : List Field} {f : Field} (hf : f ∈ fs) (hr : f.role = .normal) :
    (remainder m fs).lookup f.key = none := by
  rw [lookup_remainder]
  split
  · rfl
  · rename_i hnot
    cases hl : m.lookup f.key with
    | none => rfl
    | some v => exact absurd (mem_outlineKeys.2 ⟨f, hf, hr, v, by simp [fieldTake, hl]⟩) hnot

theorem noUMapKVs_remainder {m : Entries} (fs : List Field) (hm : NoUMapKVs m) : NoUMapKVs (remainder m fs) := by
  rw [noUMapKVs_iff] at hm ⊢
  intro p hp
  unfold remainder at hp
  exact hm p (List.mem_filter.1 hp).1

/-- A command step in the image of the parser. -/
structure CommandOK (c : CommandStep) : Prop where
  plugins : ∀ l, c.plugins = some l → l ≠ [] ∧ ∀ p ∈ l, PluginOK p
  env : ∀ e, c.env = some e → SortedK e
  matrix : ∀ mm, c.matrix = some mm → MatrixOK mm
  cache : ∀ k, c.cache = some k → RemOK Gen.struct_Cache k.rem
  rem : RemOK Gen.struct_CommandStep c.rem
  noCommands : (c.rem.getD []).lookup "commands" = none

theorem parseCommand_inv {m : Entries} {c : CommandStep} (hm : NoUMapKVs m) (h : parseCommand m = .ok c) :
    CommandOK c := by
  have hrest : NoUMapKVs (remainder m Gen.struct_CommandStep_UnmarshalOrdered_local0) := noUMapKVs_remainder _ hm
  unfold parseCommand at h
  simp only at h
  split at h
  · cases h
  · rename_i cmds hc
    split at h
    · rename_i key label cmd plugins env sig matrix cache hk hl hcm hp he hs hmx hca
      cases h
      refine ⟨fun l hl => ?_, fun e he' => ?_, fun mm hmm => ?_, fun k hk' => ?_, remOK_remMap _ _ hrest, ?_⟩
      · obtain ⟨v, hf, hv⟩ := optField_inv ((show plugins = some l from hl) ▸ hp)
        exact parsePlugins_ok (fieldOf_taken_noUMap hrest hf) hv
      · obtain ⟨v, _, hv⟩ := optField_inv ((show env = some e from he') ▸ he)
        exact parseEnvMap_sorted hv
      · obtain ⟨v, hf, hv⟩ := optField_inv ((show matrix = some mm from hmm) ▸ hmx)
        exact parseMatrix_ok (fieldOf_taken_noUMap hrest hf) hv
      · obtain ⟨v, hf, hv⟩ := optField_inv ((show cache = some k from hk') ▸ hca)
        exact parseCache_ok (fieldOf_taken_noUMap hrest hf) hv
      · simp only
        rw [remMap_getD, (lookup_eq_none_iff_keys _ _)]
        intro hmem
        have h1 := ((mem_keys_remainder Gen.struct_CommandStep _ "commands").1 (mem_keys_umapOf hmem)).1
        have h2 : (remainder m Gen.struct_CommandStep_UnmarshalOrdered_local0).lookup "commands" = none :=
          lookup_remainder_prim (f := .mk "Commands" "commands" ["command"] .normal (.slice .string))
            (by simp [Gen.struct_CommandStep_UnmarshalOrdered_local0]) rfl
        exact (lookup_eq_none_iff_keys _ _).1 h2 h1
    · cases h

/-! ### Fields with aliases -/

theorem fieldTake_alias1 (m : Entries) (n k a : String) (ty : GoTy) (ha : a ≠ "") :
    (fieldTake m (.mk n k [a] .normal ty)).map (·.2) =
      match m.lookup k with
      | some v => some v
      | none => m.lookup a := by
  have ha' : (a == "") = false := by simpa using ha
  simp only [fieldTake, firstAlias, Field.key, Field.aliases, ha']
  cases m.lookup k <;> cases m.lookup a <;> rfl

theorem fieldTake_alias2 (m : Entries) (n k a b : String) (ty : GoTy) (ha : a ≠ "") (hb : b ≠ "") :
    (fieldTake m (.mk n k [a, b] .normal ty)).map (·.2) =
      match m.lookup k with
      | some v => some v
      | none => match m.lookup a with
        | some v => some v
        | none => m.lookup b := by
  have ha' : (a == "") = false := by simpa using ha
  have hb' : (b == "") = false := by simpa using hb
  simp only [fieldTake, firstAlias, Field.key, Field.aliases, ha', hb']
  cases m.lookup k <;> cases m.lookup a <;> cases m.lookup b <;> rfl

theorem fieldOf_commands (m : Entries) :
    fieldOf (taken m Gen.struct_CommandStep_UnmarshalOrdered_local0) "Commands" =
      match m.lookup "commands" with
      | some v => some v
      | none => m.lookup "command" := by
  unfold Gen.struct_CommandStep_UnmarshalOrdered_local0
  rw [fieldOf_taken_cons_eq (n := "Commands") rfl rfl (by simp [Field.name])]
  exact fieldTake_alias1 m _ _ _ _ (by decide +kernel)

theorem fieldOf_cs_key (r : Entries) :
    fieldOf (taken r Gen.struct_CommandStep) "Key" =
      match r.lookup "key" with
      | some v => some v
      | none => match r.lookup "id" with
        | some v => some v
        | none => r.lookup "identifier" := by
  unfold Gen.struct_CommandStep
  rw [fieldOf_taken_cons_eq (n := "Key") rfl rfl (by simp [Field.name])]
  exact fieldTake_alias2 r _ _ _ _ _ (by decide +kernel) (by decide +kernel)

theorem fieldOf_cs_label (r : Entries) :
    fieldOf (taken r Gen.struct_CommandStep) "Label" =
      match r.lookup "label" with
      | some v => some v
      | none => r.lookup "name" := by
  unfold Gen.struct_CommandStep
  rw [fieldOf_taken_skip _ _ _ _ (by decide +kernel), fieldOf_taken_cons_eq (n := "Label") rfl rfl (by simp [Field.name])]
  exact fieldTake_alias1 r _ _ _ _ (by decide +kernel)

/-- The re-read entry of an `omitempty` string field is missing only when the string is empty. -/
theorem omitempty_absent {s : String} {r : Option Val}
    (h : (match (if (s == "") = true then none else some (Val.str s)) with
      | some v => some (rereadJ v)
      | none => r) = none) : s = "" := by
  by_cases h0 : s = ""
  · exact h0
  · simp [h0] at h

/-! ### The command step re-parses -/

theorem cmdOutlineKeys_normal : ∀ k ∈ cmdOutlineKeys, k ∈ normalKeys Gen.struct_CommandStep := by decide +kernel

theorem map_map_idem {α : Type} (g : α → α) (l : List α) (h : ∀ a ∈ l, g (g a) = g a) :
    (l.map g).map g = l.map g := by
  rw [List.map_map]
  apply List.map_congr_left
  intro a ha
  exact h a ha

/-- A pointer-typed field is read from the re-read outline entry, if there is one. -/
theorem optField_optO {α : Type} {t : List (String × String × Val)} {name : String} {o : Option α} {f : α → Val}
    {p : Val → Except Hard (Option α)} (ht : fieldOf t name = (o.map f).map rereadJ) :
    optField t name none p = (o.map fun a => p (rereadJ (f a))).getD (.ok none) := by
  unfold optField
  rw [ht]
  cases o <;> rfl

/-- A pointer whose value re-parses up to `n` reads back up to `n`, absent or not. -/
theorem optO_back {α : Type} {o : Option α} {f : α → Val} {p : Val → Except Hard (Option α)} {n : α → α}
    (h : ∀ a, o = some a → ∃ a', p (rereadJ (f a)) = .ok (some a') ∧ n a' = n a) :
    ∃ o', (o.map fun a => p (rereadJ (f a))).getD (.ok none) = .ok o' ∧ o'.map n = o.map n := by
  cases o with
  | none => exact ⟨none, rfl, rfl⟩
  | some a =>
    obtain ⟨a', h1, h2⟩ := h a rfl
    exact ⟨some a', h1, by simp only [Option.map_some, h2]⟩

/-- The command step, for any way of writing signature, matrix and cache that re-parses up to normal
    form: the two-stage decoder (`commands`/`command` first, then the struct) gives the step back. The last
    two conjuncts say that `c'.signature` and `c'.matrix` are the parse of what was written for them
    (`.ok none` when nothing was written). -/
theorem command_reparse (c : CommandStep) (hok : CommandOK c) (hal : noEmptyPrimaryWithAlias c.key c.label c.rem)
    (fS : Signature → Val) (fM : Matrix → Val) (fC : Cache → Val)
    (hS : ∀ s, c.signature = some s → ∃ s', parseSignature (rereadJ (fS s)) = .ok (some s') ∧
      { s' with signedFields := normList s'.signedFields } = { s with signedFields := normList s.signedFields })
    (hM : ∀ m, c.matrix = some m → ∃ m', parseMatrix (rereadJ (fM m)) = .ok (some m') ∧ normMatrix m' = normMatrix m)
    (hC : ∀ k, c.cache = some k → ∃ k', parseCache (rereadJ (fC k)) = .ok (some k') ∧ normCache k' = normCache k) :
    ∃ kvs c', rereadJ (inlineFriendly (cmdOutlineWith fS fM fC c) c.rem) = .omap kvs ∧ parseCommand kvs = .ok c' ∧
      normCommand c' = normCommand c ∧ kvs.lookup "command" = some (.str c.command) ∧
      (∀ k, k ∉ cmdOutlineKeys → kvs.lookup k = (c.rem.getD []).lookup k) ∧
      (c.signature.map fun s => parseSignature (rereadJ (fS s))).getD (.ok none) = .ok c'.signature ∧
      (c.matrix.map fun m => parseMatrix (rereadJ (fM m))).getD (.ok none) = .ok c'.matrix := by
  -- from here on the outline is an opaque list `O`, known only by its keys and lookups
  obtain ⟨O, hO⟩ : ∃ O, cmdOutlineWith fS fM fC c = O := ⟨_, rfl⟩
  have hkeys := cmdOutlineWith_keys fS fM fC c
  have hnd := cmdOutlineWith_nodup fS fM fC c
  obtain ⟨ok, ol, oc, op, oe, os, om, oca⟩ := cmdOutlineWith_lookups fS fM fC c
  rw [hO] at hkeys hnd ok ol oc op oe os om oca ⊢
  have hother : ∀ {k}, k ∉ cmdOutlineKeys → O.lookup k = none :=
    fun hk => lookup_none_of_not_mem fun h => hk (hkeys.subset h)
  obtain ⟨U, hU, hsU, hl⟩ := reread_inline O c.rem hnd hok.rem.sorted hok.rem.noUMap
  -- first stage: `command` is taken, everything else is handed on
  have hUcommands : U.lookup "commands" = none := by
    rw [hl, hother (by decide +kernel)]; exact hok.noCommands
  have hUcommand : U.lookup "command" = some (.str c.command) := by rw [hl, oc]; rfl
  have hcmds : optField (taken U Gen.struct_CommandStep_UnmarshalOrdered_local0) "Commands" none strsOf = .ok (some [c.command]) := by
    unfold optField; rw [fieldOf_commands, hUcommands, hUcommand]; rfl
  have hOK : outlineKeys U Gen.struct_CommandStep_UnmarshalOrdered_local0 = ["command"] := by
    simp [outlineKeys, taken, fieldTake, firstAlias, Gen.struct_CommandStep_UnmarshalOrdered_local0, Field.role,
      Field.key, Field.aliases, Field.name, hUcommands, hUcommand]
  have hR : ∀ k, (remainder U Gen.struct_CommandStep_UnmarshalOrdered_local0).lookup k = if k = "command" then none else U.lookup k := by
    intro k; rw [lookup_remainder, hOK]; simp
  have hsR : SortedK (remainder U Gen.struct_CommandStep_UnmarshalOrdered_local0) := sortedK_sublist List.filter_sublist hsU
  obtain ⟨R, hRdef⟩ : ∃ R, remainder U Gen.struct_CommandStep_UnmarshalOrdered_local0 = R := ⟨_, rfl⟩
  rw [hRdef] at hR hsR
  have hRU : ∀ k, k ≠ "command" → R.lookup k = match O.lookup k with
      | some v => some (rereadJ v)
      | none => (c.rem.getD []).lookup k := by
    intro k hne; rw [hR, if_neg hne]; exact hl k
  -- second stage: a field without aliases reads its outline entry
  have hfield : ∀ {n k}, afKey Gen.struct_CommandStep n = some k → k ≠ "command" →
      fieldOf (taken R Gen.struct_CommandStep) n = (O.lookup k).map rereadJ := by
    intro n k hnk hne
    rw [fieldOf_afKey hnk, hRU k hne]
    cases O.lookup k with
    | some v => rfl
    | none => exact hok.rem.prim' (afKey_normal hnk)
  have hkey : optField (taken R Gen.struct_CommandStep) "Key" "" strOf = .ok c.key := by
    unfold optField
    rw [fieldOf_cs_key, hRU "key" (by decide +kernel), hRU "id" (by decide +kernel), hRU "identifier" (by decide +kernel), ok,
      hother (k := "id") (by decide +kernel), hother (k := "identifier") (by decide +kernel)]
    by_cases hk : c.key = ""
    · have := hal.2 hk
      simp [hk, this.1, this.2, hok.rem.prim' (k := "key") (by decide +kernel)]
    · simp [hk, rereadJ, strOf_str]
  have hlabel : optField (taken R Gen.struct_CommandStep) "Label" "" strOf = .ok c.label := by
    unfold optField
    rw [fieldOf_cs_label, hRU "label" (by decide +kernel), hRU "name" (by decide +kernel), ol, hother (k := "name") (by decide +kernel)]
    by_cases hk : c.label = ""
    · have := hal.1 hk
      simp [hk, this, hok.rem.prim' (k := "label") (by decide +kernel)]
    · simp [hk, rereadJ, strOf_str]
  have hcommand : optField (taken R Gen.struct_CommandStep) "Command" "" strOf = .ok "" := by
    unfold optField
    rw [fieldOf_afKey (k := "command") (by decide +kernel), hR "command", if_pos rfl]
  have hplug : ∃ pl', optField (taken R Gen.struct_CommandStep) "Plugins" none parsePlugins = .ok pl' ∧
      normList (pl'.map fun l => l.map fun p => p.map normPlugin) =
        normList (c.plugins.map fun l => l.map fun p => p.map normPlugin) := by
    unfold optField
    rw [hfield (k := "plugins") (by decide +kernel) (by decide +kernel), op]
    cases hp : c.plugins with
    | none => exact ⟨none, rfl, rfl⟩
    | some l =>
      obtain ⟨hne, hall⟩ := hok.plugins l hp
      have hne' : l.isEmpty = false := by simpa using hne
      refine ⟨some (l.map fun p => p.map normPlugin), ?_, ?_⟩
      · simp only [Option.getD_some, hne', Bool.false_eq_true, if_false]
        exact plugins_roundtrip_ok l hne hall
      · simp only [Option.map_some]
        rw [map_map_idem]
        intro a _
        cases a with
        | none => rfl
        | some p =>
          simp only [Option.map_some]
          rw [normPlugin_idem p]
  have henv : ∃ env', optField (taken R Gen.struct_CommandStep) "Env" none parseEnvMap = .ok env' ∧ normList env' = normList c.env := by
    unfold optField
    rw [hfield (k := "env") (by decide +kernel) (by decide +kernel), oe]
    cases he : c.env with
    | none => exact ⟨none, rfl, rfl⟩
    | some e =>
      cases e with
      | nil => exact ⟨none, rfl, rfl⟩
      | cons a t =>
        refine ⟨some (a :: t), ?_, rfl⟩
        simp only [lenUMap, List.length_cons, Nat.add_eq_zero_iff, Nat.succ_ne_self, and_false, beq_iff_eq,
          if_false]
        exact env_roundtrip_sorted (a :: t) (hok.env _ he)
  have hsgF := optField_optO (name := "Signature") (p := parseSignature)
    ((hfield (k := "signature") (by decide +kernel) (by decide +kernel)).trans (by rw [os]))
  have hmxF := optField_optO (name := "Matrix") (p := parseMatrix)
    ((hfield (k := "matrix") (by decide +kernel) (by decide +kernel)).trans (by rw [om]))
  have hcaF := optField_optO (name := "Cache") (p := parseCache)
    ((hfield (k := "cache") (by decide +kernel) (by decide +kernel)).trans (by rw [oca]))
  obtain ⟨sg', hsg1, hsg2⟩ := optO_back (n := fun s : Signature => { s with signedFields := normList s.signedFields }) hS
  obtain ⟨mx', hmx1, hmx2⟩ := optO_back hM
  obtain ⟨ca', hca1, hca2⟩ := optO_back hC
  -- the inline remainder: `id` / `identifier` / `name` are claimed only when the primary key is absent
  have hrem : normList (remMap (remainder R Gen.struct_CommandStep)) = normList c.rem := by
    apply rem_roundtrip_gen Gen.struct_CommandStep (O.filter fun p => p.1 != "command") rereadJ c.rem ?_ hok.rem R hsR
    · intro k
      rw [lookup_filter_key (fun k => k != "command")]
      by_cases hk : k = "command"
      · subst hk
        simp [hR, hok.rem.prim' (k := "command") (by decide +kernel)]
      · have : (k != "command") = true := by simpa using hk
        rw [if_pos this]
        exact hRU k hk
    · intro k hk hn
      obtain ⟨p, hp, hnone⟩ := outlineKeys_alias hk hn
      have hpairs : aliasPairs Gen.struct_CommandStep = [("key", "id"), ("key", "identifier"), ("label", "name")] := by
        decide +kernel
      simp only [hpairs, List.mem_cons, Prod.mk.injEq, List.not_mem_nil, or_false] at hp
      rcases hp with ⟨rfl, rfl⟩ | ⟨rfl, rfl⟩ | ⟨rfl, rfl⟩
      · rw [hRU "key" (by decide +kernel), ok] at hnone
        exact (hal.2 (omitempty_absent hnone)).1
      · rw [hRU "key" (by decide +kernel), ok] at hnone
        exact (hal.2 (omitempty_absent hnone)).2
      · rw [hRU "label" (by decide +kernel), ol] at hnone
        exact hal.1 (omitempty_absent hnone)
    · intro k hk
      obtain ⟨p, hp, rfl⟩ := List.mem_map.1 hk
      exact cmdOutlineKeys_normal _ (hkeys.subset (List.mem_map_of_mem (List.mem_filter.1 hp).1))
  obtain ⟨pl', hpl1, hpl2⟩ := hplug
  obtain ⟨env', henv1, henv2⟩ := henv
  refine ⟨U, { key := c.key, label := c.label, command := c.command, plugins := pl', env := env',
               signature := sg', matrix := mx', cache := ca', rem := remMap (remainder R Gen.struct_CommandStep) }, hU, ?_, ?_⟩
  · unfold parseCommand
    simp only [hcmds, hRdef, hkey, hlabel, hcommand, hpl1, henv1, hsgF, hmxF, hcaF, hsg1, hmx1, hca1]
    rfl
  · refine ⟨?_, hUcommand, fun k hk => ?_, hsg1, hmx1⟩
    · simp only [normCommand, hpl2, henv2, hsg2, hmx2, hca2, hrem]
    · rw [hl, hother hk]

/-- The JSON leg, with what the re-parse read for `signature` and `matrix`. -/
theorem command_roundtrip_reads (c : CommandStep) (hok : CommandOK c) (hs : StableCommand c) :
    ∃ kvs c', rereadJ (mCommand c) = .omap kvs ∧ parseCommand kvs = .ok c' ∧ normCommand c' = normCommand c ∧
      kvs.lookup "command" = some (.str c.command) ∧
      (∀ k, k ∉ cmdOutlineKeys → kvs.lookup k = (c.rem.getD []).lookup k) ∧
      (c.signature.map fun s => parseSignature (rereadJ (mSignature s))).getD (.ok none) = .ok c'.signature ∧
      (c.matrix.map fun m => parseMatrix (rereadJ (mMatrix m))).getD (.ok none) = .ok c'.matrix := by
  rw [mCommand_eq]
  exact command_reparse c hok hs.1 mSignature mMatrix mCache (fun s _ => ⟨s, signature_roundtrip s, rfl⟩)
    (fun m hm =>
      let ⟨m', h1, h2⟩ := matrix_roundtrip_same m (hok.matrix m hm) (hs.2.2.1 m hm)
      ⟨m', h1, normMatrix_of_same h2⟩)
    (fun k hk => cache_roundtrip_ok k (hok.cache k hk))

theorem command_roundtrip_ok (c : CommandStep) (hok : CommandOK c) (hs : StableCommand c) :
    ∃ kvs c', rereadJ (mCommand c) = .omap kvs ∧ parseCommand kvs = .ok c' ∧ normCommand c' = normCommand c ∧
      kvs.lookup "command" = some (.str c.command) ∧
      ∀ k, k ∉ cmdOutlineKeys → kvs.lookup k = (c.rem.getD []).lookup k :=
  let ⟨kvs, c', h1, h2, h3, h4, h5, _⟩ := command_roundtrip_reads c hok hs
  ⟨kvs, c', h1, h2, h3, h4, h5⟩

/-! ## Steps -/

/-! ### Keys that pass through the remainder -/

theorem lookup_remainder_of_not_claim {m : Entries} {fs : List Field} {k : String} (h : k ∉ claimKeys fs) :
    (remainder m fs).lookup k = m.lookup k := by
  rw [lookup_remainder, if_neg (fun hk => h ((outlineKeys_sublist m fs).subset hk))]

theorem lookup_remMap_remainder {m : Entries} {fs : List Field} {k : String} (hn : (m.map (·.1)).Nodup)
    (hk : k ∉ claimKeys fs) : ((remMap (remainder m fs)).getD []).lookup k = m.lookup k := by
  rw [remMap_getD, lookup_umapOf_nodup (nodup_keys_remainder fs hn), lookup_remainder_of_not_claim hk]

theorem parseCommand_rem {m : Entries} {c : CommandStep} (h : parseCommand m = .ok c) :
    c.rem = remMap (remainder (remainder m Gen.struct_CommandStep_UnmarshalOrdered_local0) Gen.struct_CommandStep) := by
  unfold parseCommand at h
  simp only at h
  split at h
  · cases h
  · split at h
    · cases h
      rfl
    · cases h

theorem command_rem_lookup {m : Entries} {c : CommandStep} (h : parseCommand m = .ok c) (hn : (m.map (·.1)).Nodup)
    {k : String} (h1 : k ∉ claimKeys Gen.struct_CommandStep_UnmarshalOrdered_local0) (h2 : k ∉ claimKeys Gen.struct_CommandStep) :
    (c.rem.getD []).lookup k = m.lookup k := by
  rw [parseCommand_rem h, lookup_remMap_remainder (nodup_keys_remainder _ hn) h2, lookup_remainder_of_not_claim h1]

/-! ### Kind selection -/

open StepKind in
theorem selOf_eq_of {m U : Entries} (htype : U.lookup "type" = m.lookup "type")
    (hkeys : m.lookup "type" = none → ∀ k ∈ kindKeys, (U.lookup k).isSome = (m.lookup k).isSome) :
    selOf U = selOf m := by
  unfold selOf
  rw [htype]
  cases ht : m.lookup "type" with
  | none =>
    simp only
    simp only [select, byKeys_congr Gen.inferTable _ (fun k => (m.lookup k).isSome) (inferTable_keys ▸ hkeys ht)]
  | some v => cases v <;> rfl

open StepKind in
theorem infer_group_has {has : String → Bool}
    (h : select Gen.typeTable Gen.inferTable has .absent = .known .group) : has "group" = true := by
  rw [inference_rule] at h
  -- the first matching family wins: `group` is the answer only if its key is there
  have key : ∀ a b c d e : Bool, (if a then Sel.known .command else if b then .known .wait else if c then .known .input
      else if d then .known .trigger else if e then .known .group else .inferFail) = .known .group → e = true := by
    decide +kernel
  exact key _ _ _ _ _ h

open StepKind in
theorem selOf_command_of {m U : Entries} (htype : U.lookup "type" = m.lookup "type")
    (hc : (U.lookup "command").isSome = true) (hsel : selOf m = .ok (.known .command)) :
    selOf U = .ok (.known .command) := by
  unfold selOf at hsel ⊢
  rw [htype]
  cases ht : m.lookup "type" with
  | none =>
    simp only
    rw [inference_rule]
    simp [specInfer, hc]
  | some v =>
    rw [ht] at hsel
    cases v <;> first | exact hsel | (simp at hsel)

theorem selOf_umapOf {m : Entries} (hn : (m.map (·.1)).Nodup) : selOf (Parse.umapOf m) = selOf m :=
  selOf_eq_of (lookup_umapOf_nodup hn _) (fun _ k _ => by rw [lookup_umapOf_nodup hn])

theorem selectScalar_ne_empty {t : String} (h : StepKind.selectScalar Gen.scalarTable t ≠ .unknownType) : t ≠ "" := by
  intro ht; subst ht
  exact h (by decide +kernel)

/-! ### Group step fields -/

theorem fieldOf_grp_key (r : Entries) :
    fieldOf (taken r Gen.struct_GroupStep) "Key" =
      match r.lookup "key" with
      | some v => some v
      | none => match r.lookup "id" with
        | some v => some v
        | none => r.lookup "identifier" := by
  unfold Gen.struct_GroupStep
  rw [fieldOf_taken_cons_eq (n := "Key") rfl rfl (by simp [Field.name])]
  exact fieldTake_alias2 r _ _ _ _ _ (by decide +kernel) (by decide +kernel)

theorem fieldOf_grp_group (r : Entries) (v : Val) (h : r.lookup "group" = some v) :
    fieldOf (taken r Gen.struct_GroupStep) "Group" = some v := by
  unfold Gen.struct_GroupStep
  rw [fieldOf_taken_skip _ _ _ _ (by decide +kernel), fieldOf_taken_cons_eq (n := "Group") rfl rfl (by simp [Field.name])]
  simp [fieldTake, Field.key, h]

theorem outlineKeys_grp_alias {R : Entries} {k : String} (h : k ∈ outlineKeys R Gen.struct_GroupStep)
    (hn : k ∉ normalKeys Gen.struct_GroupStep) :
    ((k = "id" ∨ k = "identifier") ∧ R.lookup "key" = none) ∨ R.lookup "group" = none := by
  obtain ⟨p, hp, hnone⟩ := outlineKeys_alias h hn
  have hpairs : aliasPairs Gen.struct_GroupStep =
      [("key", "id"), ("key", "identifier"), ("group", "label"), ("group", "name")] := by decide +kernel
  simp only [hpairs, List.mem_cons, Prod.mk.injEq, List.not_mem_nil, or_false] at hp
  rcases hp with ⟨rfl, rfl⟩ | ⟨rfl, rfl⟩ | ⟨rfl, rfl⟩ | ⟨rfl, rfl⟩
  · exact .inl ⟨.inl rfl, hnone⟩
  · exact .inl ⟨.inr rfl, hnone⟩
  · exact .inr hnone
  · exact .inr hnone

/-! ### Distinct keys at every depth -/

theorem keysNodupKVs_iff : (l : List (String × Val)) → (KeysNodupKVs l ↔ ∀ p ∈ l, KeysNodup p.2)
  | [] => by simp [KeysNodupKVs]
  | (k, v) :: r => by
    rw [KeysNodupKVs, keysNodupKVs_iff r]
    simp

theorem keysNodupList_iff : (l : List Val) → (KeysNodupList l ↔ ∀ p ∈ l, KeysNodup p)
  | [] => by simp [KeysNodupList]
  | v :: r => by
    rw [KeysNodupList, keysNodupList_iff r]
    simp

theorem keysNodup_of_lookup {l : List (String × Val)} (h : KeysNodupKVs l) {k : String} {v : Val}
    (hl : l.lookup k = some v) : KeysNodup v :=
  (keysNodupKVs_iff l).1 h (k, v) (mem_of_lookup hl)

/-! ### The group step re-parses -/

/-- The outline of a marshalled group step. -/
def grpOutline (k : String) (g : Option String) (js : List Val) : List (String × Val) :=
  optE (k == "") "key" (.str k) ++
    [("group", match g with | none => Val.null | some s => .str s), ("steps", .seq js)]

theorem mStep_group_eq (k : String) (g : Option String) (l : List Step) (r : UMap Val) (js : List Val)
    (h : mSteps l = .ok js) :
    mStep (.group k g (some l) r) = .ok (inlineFriendly (grpOutline k g js) r) := by
  rw [mStep_group_some, h]
  rfl

def grpOutlineKeys : List String := ["key", "group", "steps"]

theorem grpOutline_keys (k : String) (g : Option String) (js : List Val) :
    ((grpOutline k g js).map (·.1)).Sublist grpOutlineKeys := by
  unfold grpOutline
  simp only [List.map_append]
  exact (keys_optE _ _ _).append (List.Sublist.refl _)

theorem grpOutline_lookups (k : String) (g : Option String) (js : List Val) :
    (grpOutline k g js).lookup "key" = (if (k == "") = true then none else some (.str k)) ∧
    (grpOutline k g js).lookup "group" = some (match g with | none => Val.null | some s => .str s) ∧
    (grpOutline k g js).lookup "steps" = some (.seq js) := by
  unfold grpOutline
  simp only [List.lookup_append, lookup_optE, lookup_cons_if, List.lookup_nil, String.reduceEq, if_false, if_true,
    ite_self, Option.or_none, Option.or_some, Option.getD_none, and_self]

/-- Re-parsing a marshalled group step whose nested steps `js` re-parse to `ss'`. -/
theorem grpOutline_reparse (f : Nat) (k : String) (grp : Option String) (rem : UMap Val) (hR : RemOK Gen.struct_GroupStep rem)
    (hkey : k = "" → (rem.getD []).lookup "id" = none ∧ (rem.getD []).lookup "identifier" = none)
    (js : List Val) (ss' : List Step) (hps : parseSteps f (rereadJList js) = .ok (ss', [])) :
    ∃ U, rereadJ (inlineFriendly (grpOutline k grp js) rem) = .omap U ∧
      parseGroup f U = .ok (.group k grp (some ss') (remMap (remainder U Gen.struct_GroupStep))) ∧
      normList (remMap (remainder U Gen.struct_GroupStep)) = normList rem ∧
      (U.lookup "group").isSome = true ∧
      ∀ k', k' ∉ grpOutlineKeys → U.lookup k' = (rem.getD []).lookup k' := by
  have hnd : ((grpOutline k grp js).map (·.1)).Nodup := List.Nodup.sublist (grpOutline_keys k grp js) (by decide +kernel)
  obtain ⟨U, hU, hsU, hl⟩ := reread_inline (grpOutline k grp js) rem hnd hR.sorted hR.noUMap
  obtain ⟨ok, og, os⟩ := grpOutline_lookups k grp js
  have hother : ∀ {k'}, k' ∉ grpOutlineKeys → (grpOutline k grp js).lookup k' = none :=
    fun hk' => lookup_none_of_not_mem (fun h => hk' ((grpOutline_keys k grp js).subset h))
  have hUg : U.lookup "group" = some (match (generalizing := false) grp with | none => Val.null | some s => .str s) := by
    rw [hl, og]
    cases grp <;> simp [rereadJ]
  have hUs : U.lookup "steps" = some (.seq (rereadJList js)) := by
    rw [hl, os]; rfl
  have hkeyF : optField (taken U Gen.struct_GroupStep) "Key" "" strOf = .ok k := by
    unfold optField
    rw [fieldOf_grp_key, hl "key", hl "id", hl "identifier", ok, hother (by decide +kernel), hother (by decide +kernel)]
    by_cases hk : k = ""
    · have := hkey hk
      simp [hk, this.1, this.2, hR.prim' (k := "key") (by decide +kernel)]
    · simp [hk, rereadJ, strOf_str]
  have hrem : normList (remMap (remainder U Gen.struct_GroupStep)) = normList rem := by
    apply rem_roundtrip_gen Gen.struct_GroupStep (grpOutline k grp js) rereadJ rem ?_ hR U hsU hl
    · intro k' hk' hn
      rcases outlineKeys_grp_alias hk' hn with ⟨hk2, hnone⟩ | hnone
      · rw [hl "key", ok] at hnone
        rcases hk2 with rfl | rfl
        · exact (hkey (omitempty_absent hnone)).1
        · exact (hkey (omitempty_absent hnone)).2
      · rw [hUg] at hnone; cases hnone
    · intro k' hk'
      have : ∀ k ∈ grpOutlineKeys, k ∈ normalKeys Gen.struct_GroupStep := by decide +kernel
      exact this _ ((grpOutline_keys k grp js).subset hk')
  refine ⟨U, hU, ?_, hrem, by rw [hUg]; rfl, fun k' hk' => by rw [hl, hother hk']⟩
  rw [parseGroup.eq_1]
  simp only [hkeyF, fieldOf_group_steps, hUs, hps, fieldOf_grp_group U _ hUg]
  cases grp <;> simp [strOf_str, Except.map]

theorem lenUMap_umapOf_ne {m : Entries} (hne : m ≠ []) : (lenUMap (some (Parse.umapOf m)) == 0) = false := by
  have := umapOf_ne_nil hne
  cases hu : Parse.umapOf m with
  | nil => exact absurd hu this
  | cons a b => simp [lenUMap]

theorem selOf_ne_nil {m : Entries} {k : StepKind.Kind} (h : selOf m = .ok (.known k)) : m ≠ [] := by
  intro hm; subst hm
  rw [selOf_nil] at h; cases h

open StepKind in
theorem selOf_group_of {m U : Entries} (hn : (m.map (·.1)).Nodup) (hsel : selOf m = .ok (.known .group))
    (hUg : (U.lookup "group").isSome = true)
    (hUo : ∀ k', k' ∉ grpOutlineKeys → U.lookup k' = ((remMap (remainder m Gen.struct_GroupStep)).getD []).lookup k') :
    selOf U = .ok (.known .group) := by
  have hpass : ∀ k, k ∉ grpOutlineKeys → k ∉ claimKeys Gen.struct_GroupStep → U.lookup k = m.lookup k := by
    intro k h1 h2
    rw [hUo k h1, lookup_remMap_remainder hn h2]
  rw [← hsel]
  apply selOf_eq_of (hpass "type" (by decide +kernel) (by decide +kernel))
  intro ht k hk
  have hmg : (m.lookup "group").isSome = true := by
    unfold selOf at hsel
    rw [ht] at hsel
    simp only [Except.ok.injEq] at hsel
    exact infer_group_has hsel
  have hkeys : ∀ k ∈ kindKeys, k = "group" ∨ (k ∉ grpOutlineKeys ∧ k ∉ claimKeys Gen.struct_GroupStep) := by decide +kernel
  rcases hkeys k hk with rfl | ⟨h1, h2⟩
  · rw [hUg, hmg]
  · rw [hpass k h1 h2]

/-! ## The pipeline -/

theorem ssElems_keys (kvs : List (String × Val)) (e : List (String × String)) (h : ssElems kvs = .ok e) :
    e.map (·.1) = kvs.map (·.1) := by
  induction kvs generalizing e with
  | nil =>
    injection h with h
    subst h
    rfl
  | cons kv r ih =>
    rw [ssElems] at h
    split at h
    · cases h
    · rw [Parse.map_ok_iff] at h
      obtain ⟨e', hr, rfl⟩ := h
      rw [List.map_cons, List.map_cons, ih e' hr]

theorem parseEnvOrdered_nodup {ev : Val} {env : Option (List (String × String))}
    (h : parseEnvOrdered ev = .ok env) (hk : KeysNodup ev) : ((env.getD []).map (·.1)).Nodup := by
  cases ev with
  | null =>
    injection h with h
    subst h
    exact List.nodup_nil
  | omap kvs =>
    rw [parseEnvOrdered, Parse.map_ok_iff] at h
    obtain ⟨e, he, rfl⟩ := h
    rw [KeysNodup] at hk
    rw [Option.getD_some, ssElems_keys kvs e he]
    exact hk.1
  | _ => cases h

/-- What a successful `parsePipeline` returned: the steps are the `parseSteps` of a list of the document (with
    its shape, if the document has it), the unknown fields are a well-formed remainder, the env block, read in
    document order from an ordered mapping, has pairwise distinct names. -/
theorem parsePipeline_inv {v : Val} {p : Pipeline} {ws : List Warn} (hd : KeysNodup v)
    (h : parsePipeline v = .ok (p, ws)) :
    ∃ xs l ws', p.steps = some l ∧ (NoUMap v → NoUMapList xs ∧ RemOK Gen.struct_Pipeline p.rem) ∧
      KeysNodupList xs ∧ parseSteps stepFuel xs = .ok (l, ws') ∧ ((p.env.getD []).map (·.1)).Nodup := by
  unfold parsePipeline at h
  simp only [fieldOf_pipeline_steps] at h
  split at h
  · rename_i m
    rw [KeysNodup] at hd
    have hR : NoUMap (.omap m) → RemOK Gen.struct_Pipeline (remMap (remainder m Gen.struct_Pipeline)) :=
      fun hv => remOK_remMap m Gen.struct_Pipeline (by simpa [NoUMap] using hv)
    split at h
    · cases h
    · rename_i steps ws1 hst
      split at h
      · cases h
      · rename_i env henv
        have hnd : ((env.getD []).map (·.1)).Nodup := by
          unfold optField at henv
          rw [fieldOf_afKey (k := "env") (by decide +kernel)] at henv
          cases hl : m.lookup "env" with
          | none =>
            rw [hl] at henv
            cases henv
            exact List.nodup_nil
          | some ev =>
            rw [hl] at henv
            exact parseEnvOrdered_nodup henv (keysNodup_of_lookup hd.2 hl)
        split at hst
        · cases hst; cases h
          exact ⟨[], [], [], rfl, fun hv => ⟨trivial, hR hv⟩, trivial, parseSteps.eq_1 _, hnd⟩
        · cases hst; cases h
          exact ⟨[], [], [], rfl, fun hv => ⟨trivial, hR hv⟩, trivial, parseSteps.eq_1 _, hnd⟩
        · rename_i xs hl
          have h2 : KeysNodup (.seq xs) := keysNodup_of_lookup hd.2 hl
          cases hps : parseSteps stepFuel xs with
          | error e => rw [hps] at hst; cases hst
          | ok r =>
            rw [hps] at hst
            cases hst; cases h
            refine ⟨xs, r.1, r.2, rfl, fun hv => ⟨?_, hR hv⟩, by simpa [KeysNodup] using h2, hps, hnd⟩
            simpa [NoUMap] using noUMap_of_lookup (l := m) (by simpa [NoUMap] using hv) hl
        · cases hst
  · rename_i xs
    split at h
    · cases h
    · rename_i ss ws1 hps
      cases h
      exact ⟨xs, _, _, rfl, fun hv => ⟨by simpa [NoUMap] using hv, remOK_none _⟩, by simpa [KeysNodup] using hd, hps,
        List.nodup_nil⟩
  · cases h

def envOV (kvs : List (String × String)) : Val := .omap (kvs.map fun (k, v) => (k, .str v))

def pipeOutline (js : List Val) (env : Option (List (String × String))) : List (String × Val) :=
  [("steps", .seq js)] ++ optO env "env" envOV

theorem mPipeline_eq (p : Pipeline) (l : List Step) (js : List Val) (hl : p.steps = some l) (h : mSteps l = .ok js) :
    mPipeline p = .ok (inlineFriendly (pipeOutline js p.env) p.rem) := by
  obtain ⟨steps, env, rem⟩ := p
  simp only at hl
  subst hl
  unfold mPipeline
  simp only [h, Except.map]
  cases env <;> rfl

theorem pipeOutline_keys (js : List Val) (env : Option (List (String × String))) :
    ((pipeOutline js env).map (·.1)).Sublist ["steps", "env"] := by
  unfold pipeOutline
  simp only [List.map_append]
  exact (List.Sublist.refl _).append (keys_optO _ _ _)

/-- Re-parsing a marshalled pipeline whose steps `js` re-parse to `ss'`; the legs differ in `env`. -/
theorem pipeOutline_reparse (rem : UMap Val) (hR : RemOK Gen.struct_Pipeline rem) (env : Option (List (String × String)))
    (js : List Val) (ss' : List Step) (ws : List Warn)
    (hps : parseSteps stepFuel (rereadJList js) = .ok (ss', ws)) :
    ∃ U, rereadJ (inlineFriendly (pipeOutline js env) rem) = .omap U ∧
      parsePipeline (.omap U) = .ok ({ steps := some ss', env := env, rem := remMap (remainder U Gen.struct_Pipeline) }, ws) ∧
      normList (remMap (remainder U Gen.struct_Pipeline)) = normList rem := by
  obtain ⟨U, hU, hf, hrem⟩ := struct_reread_af aliasFree_pipeline (pipeOutline_keys js env) (by decide +kernel) (by decide +kernel) hR
  refine ⟨U, hU, ?_, hrem⟩
  have hsteps : fieldOf (taken U Gen.struct_Pipeline) "Steps" = some (.seq (rereadJList js)) := by
    rw [hf (k := "steps") (by decide +kernel)]
    rfl
  have henv : optField (taken U Gen.struct_Pipeline) "Env" none parseEnvOrdered = .ok env := by
    unfold optField
    rw [hf (k := "env") (by decide +kernel)]
    simp only [pipeOutline, List.lookup_append, lookup_cons_if, lookup_optO, List.lookup_nil]
    cases env with
    | none => rfl
    | some e => exact pipeline_env_roundtrip e
  unfold parsePipeline
  simp only [hsteps, hps, Except.map, henv]

end GoPipeline.Roundtrip
