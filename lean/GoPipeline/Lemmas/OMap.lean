/-
  C05 — lemmas for the ordered-map refinement proof.

  Everything is key-directed: `posOf` reads the index off the slots, `mapLive p f` applies `f` to the
  live slots whose key satisfies `p`. A hit of `posOf` splits the slots as `A ++ s :: B` at the slot
  found; under distinct live keys the position-directed writes of the Go code are therefore
  key-directed ones, and only `pairsOf`, `keysOf`, `posOf` of a `mapLive` are reasoned about.
-/
import GoPipeline.Model.OMap
import Batteries.Data.List.Basic  -- only for the standard `List.Forall₂` in `aequal_iff`
namespace GoPipeline.OMap
variable {V : Type}

theorem lookup_cons_ite {β : Type} (a : String) (b : β) (r : List (String × β)) (x : String) :
    ((a, b) :: r).lookup x = if x = a then some b else r.lookup x := by
  rw [List.lookup_cons]
  by_cases h : x = a
  · rw [if_pos h, beq_iff_eq.2 h]
  · rw [if_neg h, beq_eq_false_iff_ne.2 h]

theorem lookup_eq_none_iff_keys {β : Type} (l : List (String × β)) (k : String) :
    l.lookup k = none ↔ k ∉ l.map (·.1) := by
  simp only [List.lookup_eq_none_iff, List.mem_map, not_exists, not_and, bne_iff_ne, ne_eq]
  exact forall₂_congr fun _ _ => ⟨Ne.symm, Ne.symm⟩

theorem lookup_isSome_iff_keys {β : Type} (l : List (String × β)) (k : String) :
    (l.lookup k).isSome = true ↔ k ∈ l.map (·.1) := by
  rw [Option.isSome_iff_ne_none, Ne, lookup_eq_none_iff_keys, Decidable.not_not]

theorem lookup_idxDel (ix : Index) (k x : String) :
    (idxDel ix k).lookup x = if x = k then none else ix.lookup x := by
  induction ix with
  | nil => exact (ite_self _).symm
  | cons p r ih =>
    obtain ⟨a, b⟩ := p
    rw [lookup_cons_ite, idxDel, List.filter_cons]
    by_cases ha : a = k
    · rw [if_neg (by simpa using ha), ← idxDel, ih, ha]
      split <;> rfl
    · rw [if_pos (by simpa using ha), lookup_cons_ite, ← idxDel, ih]
      by_cases hx : x = a
      · rw [if_pos hx, if_neg (hx ▸ ha), if_pos hx]
      · rw [if_neg hx, if_neg hx]

theorem lookup_idxSet (ix : Index) (k x : String) (i : Nat) :
    (idxSet ix k i).lookup x = if x = k then some i else ix.lookup x := by
  rw [idxSet, lookup_cons_ite, lookup_idxDel]
  split <;> rfl

theorem idxSet_idxDel (ix : Index) (k : String) (i : Nat) :
    idxSet (idxDel ix k) k i = idxSet ix k i := by
  simp [idxSet, idxDel, List.filter_filter]

theorem nodup_idxDel {ix : Index} (h : (ix.map (·.1)).Nodup) (k : String) :
    ((idxDel ix k).map (·.1)).Nodup :=
  h.sublist (List.filter_sublist.map _)

theorem nodup_idxSet {ix : Index} (h : (ix.map (·.1)).Nodup) (k : String) (i : Nat) :
    ((idxSet ix k i).map (·.1)).Nodup := by
  refine List.nodup_cons.2 ⟨?_, nodup_idxDel h k⟩
  rw [← lookup_eq_none_iff_keys, lookup_idxDel, if_pos rfl]

theorem length_modAt {α : Type} (f : α → α) (i : Nat) (l : List α) :
    (modAt f i l).length = l.length := by
  induction l generalizing i with
  | nil => simp [modAt]
  | cons a r ih => cases i <;> simp [modAt, ih]

theorem modAt_append_left {α : Type} (f : α → α) {i : Nat} {l : List α} (h : i < l.length)
    (b : List α) : modAt f i (l ++ b) = modAt f i l ++ b := by
  induction l generalizing i with
  | nil => cases h
  | cons a r ih =>
    cases i with
    | zero => rfl
    | succ i => exact congrArg (a :: ·) (ih (Nat.lt_of_succ_lt_succ h))

theorem modAt_split {α : Type} (f : α → α) (A : List α) (a : α) (B : List α) :
    modAt f A.length (A ++ a :: B) = A ++ f a :: B := by
  induction A with
  | nil => rfl
  | cons b r ih => exact congrArg (b :: ·) ih

theorem modAt_length_append {α : Type} (f : α → α) (l : List α) (a : α) :
    modAt f l.length (l ++ [a]) = l ++ [f a] := modAt_split f l a []

def keysOf (items : List (Slot V)) : List String := (live items).map (·.key)

@[simp] theorem live_nil : live ([] : List (Slot V)) = [] := rfl
@[simp] theorem pairsOf_nil : pairsOf ([] : List (Slot V)) = [] := rfl
@[simp] theorem keysOf_nil : keysOf ([] : List (Slot V)) = [] := rfl

theorem live_cons (s : Slot V) (r : List (Slot V)) :
    live (s :: r) = if s.deleted then live r else s :: live r := by
  rw [live, List.filter_cons]
  cases s.deleted <;> rfl

theorem pairsOf_cons (s : Slot V) (r : List (Slot V)) :
    pairsOf (s :: r) = if s.deleted then pairsOf r else (s.key, s.val) :: pairsOf r := by
  rw [pairsOf, live_cons]
  split <;> rfl

theorem keysOf_cons (s : Slot V) (r : List (Slot V)) :
    keysOf (s :: r) = if s.deleted then keysOf r else s.key :: keysOf r := by
  rw [keysOf, live_cons]
  split <;> rfl

theorem pairsOf_append (a b : List (Slot V)) : pairsOf (a ++ b) = pairsOf a ++ pairsOf b := by
  simp [pairsOf, live]

theorem keysOf_append (a b : List (Slot V)) : keysOf (a ++ b) = keysOf a ++ keysOf b := by
  simp [keysOf, live]

theorem map_fst_pairsOf (items : List (Slot V)) : (pairsOf items).map (·.1) = keysOf items := by
  simp [pairsOf, keysOf]

theorem keys_liveIdxFrom (n : Nat) (items : List (Slot V)) :
    (liveIdxFrom n items).map (·.1) = keysOf items := by
  induction items generalizing n with
  | nil => rfl
  | cons s r ih =>
    rw [liveIdxFrom, keysOf_cons]
    split <;> simp [ih]

theorem mem_keysOf {s : Slot V} {items : List (Slot V)} (hs : s ∈ items) (hd : s.deleted = false) :
    s.key ∈ keysOf items :=
  List.mem_map_of_mem (List.mem_filter.2 ⟨hs, by rw [hd]; rfl⟩)

theorem lookup_pairsOf_eq_none {items : List (Slot V)} {k : String} (h : k ∉ keysOf items) :
    (pairsOf items).lookup k = none := by
  rw [lookup_eq_none_iff_keys, map_fst_pairsOf]; exact h

theorem lookup_pairsOf_isSome (items : List (Slot V)) (k : String) :
    ((pairsOf items).lookup k).isSome = true ↔ k ∈ keysOf items := by
  rw [lookup_isSome_iff_keys, map_fst_pairsOf]

/-- Position (offset by `n`) of the first live slot with key `k`. -/
def posOf (k : String) : Nat → List (Slot V) → Option Nat
  | _, [] => none
  | n, s :: r => if !s.deleted && s.key == k then some n else posOf k (n + 1) r

theorem lookup_liveIdxFrom (n : Nat) (items : List (Slot V)) (k : String) :
    (liveIdxFrom n items).lookup k = posOf k n items := by
  induction items generalizing n with
  | nil => rfl
  | cons s r ih =>
    rcases s with ⟨a, w, _ | _⟩
    · rw [liveIdxFrom, if_neg Bool.false_ne_true, lookup_cons_ite, ih, posOf]
      by_cases h : a = k
      · simp [h]
      · simp [h, Ne.symm h]
    · exact ih _

theorem posOf_eq_none_iff (k : String) (n : Nat) (items : List (Slot V)) :
    posOf k n items = none ↔ k ∉ keysOf items := by
  rw [← lookup_liveIdxFrom, lookup_eq_none_iff_keys, keys_liveIdxFrom]

theorem posOf_isSome_iff (k : String) (n : Nat) (items : List (Slot V)) :
    (posOf k n items).isSome = true ↔ k ∈ keysOf items := by
  rw [← lookup_liveIdxFrom, lookup_isSome_iff_keys, keys_liveIdxFrom]

theorem mem_keysOf_of_posOf {k : String} {n i : Nat} {items : List (Slot V)}
    (h : posOf k n items = some i) : k ∈ keysOf items := by
  rw [← posOf_isSome_iff k n, h]; rfl

theorem posOf_append (k : String) (n : Nat) (a b : List (Slot V)) :
    posOf k n (a ++ b) = (posOf k n a).or (posOf k (n + a.length) b) := by
  induction a generalizing n with
  | nil => rfl
  | cons s r ih =>
    rw [List.cons_append, posOf, posOf, ih, List.length_cons, Nat.add_right_comm, Nat.add_assoc]
    split <;> rfl

theorem posOf_split {k : String} {n i : Nat} {items : List (Slot V)} (h : posOf k n items = some i) :
    ∃ A s B, items = A ++ s :: B ∧ i = n + A.length ∧ s.deleted = false ∧ s.key = k ∧
      k ∉ keysOf A := by
  induction items generalizing n with
  | nil => cases h
  | cons s r ih =>
    rw [posOf] at h
    split at h
    · next hc =>
      cases h
      rw [Bool.and_eq_true, Bool.not_eq_true', beq_iff_eq] at hc
      exact ⟨[], s, r, rfl, rfl, hc.1, hc.2, List.not_mem_nil⟩
    · next hc =>
      obtain ⟨A, t, B, rfl, rfl, hd, hk, hA⟩ := ih h
      refine ⟨s :: A, t, B, rfl, by rw [List.length_cons, Nat.add_right_comm, Nat.add_assoc], hd, hk, ?_⟩
      rw [keysOf_cons]
      split
      · exact hA
      · next hs =>
        rw [List.mem_cons, not_or]
        refine ⟨fun e => hc ?_, hA⟩
        simp [hs, e]

theorem keysOf_split (A B : List (Slot V)) {s : Slot V} (hd : s.deleted = false) :
    keysOf (A ++ s :: B) = keysOf A ++ s.key :: keysOf B := by
  rw [keysOf_append, keysOf_cons, hd]; rfl

theorem pairsOf_split (A B : List (Slot V)) {s : Slot V} (hd : s.deleted = false) :
    pairsOf (A ++ s :: B) = pairsOf A ++ (s.key, s.val) :: pairsOf B := by
  rw [pairsOf_append, pairsOf_cons, hd]; rfl

theorem not_mem_of_nodup_split {A B : List String} {k : String} (h : (A ++ k :: B).Nodup) :
    k ∉ A ∧ k ∉ B :=
  have h := List.nodup_append.1 h
  ⟨fun hm => h.2.2 k hm k List.mem_cons_self rfl, (List.nodup_cons.1 h.2.1).1⟩

theorem posOf_lt {k : String} {i : Nat} {items : List (Slot V)} (h : posOf k 0 items = some i) :
    i < items.length := by
  obtain ⟨A, s, B, rfl, rfl, -⟩ := posOf_split h
  simp

/-- Apply `f` to every live slot whose key satisfies `p` (at most one for `p = (· == k)` under `Inv`). -/
def mapLive (p : String → Bool) (f : Slot V → Slot V) (items : List (Slot V)) : List (Slot V) :=
  items.map fun s => if !s.deleted && p s.key then f s else s

theorem mapLive_cons (p : String → Bool) (f : Slot V → Slot V) (s : Slot V) (r : List (Slot V)) :
    mapLive p f (s :: r) = (if !s.deleted && p s.key then f s else s) :: mapLive p f r := rfl

theorem mapLive_append (p : String → Bool) (f : Slot V → Slot V) (a b : List (Slot V)) :
    mapLive p f (a ++ b) = mapLive p f a ++ mapLive p f b := List.map_append

theorem length_mapLive (p : String → Bool) (f : Slot V → Slot V) (items : List (Slot V)) :
    (mapLive p f items).length = items.length := List.length_map _

theorem mapLive_of_not_mem {p : String → Bool} (f : Slot V → Slot V) {items : List (Slot V)}
    (h : ∀ x ∈ keysOf items, p x = false) : mapLive p f items = items := by
  induction items with
  | nil => rfl
  | cons s r ih =>
    rcases s with ⟨a, w, _ | _⟩
    · rw [keysOf_cons, if_neg Bool.false_ne_true] at h
      rw [mapLive_cons, ih fun x hx => h x (List.mem_cons_of_mem _ hx), if_neg]
      rw [h a List.mem_cons_self]; exact Bool.false_ne_true
    · exact congrArg _ (ih h)

theorem mapLive_congr {p : String → Bool} {f g : Slot V → Slot V}
    (h : ∀ s, s.deleted = false → p s.key = true → f s = g s) (items : List (Slot V)) :
    mapLive p f items = mapLive p g items := by
  refine List.map_congr_left fun s _ => ?_
  split
  · next hc =>
    rw [Bool.and_eq_true, Bool.not_eq_true'] at hc
    exact h s hc.1 hc.2
  · rfl

theorem beq_false_of_not_mem {k : String} {l : List String} (h : k ∉ l) :
    ∀ x ∈ l, (x == k) = false :=
  fun _ hx => beq_eq_false_iff_ne.2 fun e => h (e ▸ hx)

theorem mapLive_split {p : String → Bool} (f : Slot V → Slot V) {A B : List (Slot V)} {s : Slot V}
    (hd : s.deleted = false) (hk : p s.key = true) (hA : ∀ x ∈ keysOf A, p x = false)
    (hB : ∀ x ∈ keysOf B, p x = false) : mapLive p f (A ++ s :: B) = A ++ f s :: B := by
  rw [mapLive_append, mapLive_cons, mapLive_of_not_mem f hA, mapLive_of_not_mem f hB, if_pos]
  rw [hd, hk]; rfl

theorem modAt_eq_mapLive {k : String} {i : Nat} {items : List (Slot V)} (f : Slot V → Slot V)
    (hnd : (keysOf items).Nodup) (h : posOf k 0 items = some i) :
    modAt f i items = mapLive (· == k) f items := by
  obtain ⟨A, s, B, rfl, rfl, hd, rfl, hA⟩ := posOf_split h
  rw [keysOf_split A B hd] at hnd
  rw [Nat.zero_add, modAt_split]
  exact (mapLive_split (p := (· == s.key)) f hd (beq_self_eq_true _) (beq_false_of_not_mem hA)
    (beq_false_of_not_mem (not_mem_of_nodup_split hnd).2)).symm

theorem getElem?_of_posOf {k : String} {i : Nat} {items : List (Slot V)}
    (h : posOf k 0 items = some i) : (items[i]?).map (·.val) = (pairsOf items).lookup k := by
  obtain ⟨A, s, B, rfl, rfl, hd, rfl, hA⟩ := posOf_split h
  rw [pairsOf_split A B hd, List.lookup_append, lookup_pairsOf_eq_none hA, Nat.zero_add,
    List.getElem?_append_right (Nat.le_refl _), Nat.sub_self]
  exact (List.lookup_cons_self ..).symm

theorem posOf_map (g : Slot V → Slot V) {x y : String} (n : Nat) (items : List (Slot V))
    (h : ∀ s ∈ items, (!(g s).deleted && (g s).key == y) = (!s.deleted && s.key == x)) :
    posOf y n (items.map g) = posOf x n items := by
  induction items generalizing n with
  | nil => rfl
  | cons s r ih =>
    rw [List.map_cons, posOf, posOf, h s List.mem_cons_self,
      ih _ fun t ht => h t (List.mem_cons_of_mem _ ht)]

abbrev tomb : Slot V → Slot V := fun s => { s with deleted := true }

theorem pairsOf_tomb (p : String → Bool) (items : List (Slot V)) :
    pairsOf (mapLive p tomb items) = (pairsOf items).filter (fun q => !p q.1) := by
  induction items with
  | nil => rfl
  | cons s r ih =>
    rcases s with ⟨a, w, _ | _⟩
    · cases ha : p a <;> simp [mapLive_cons, pairsOf_cons, ha, ih]
    · exact ih

theorem pairsOf_tomb_key (k : String) (items : List (Slot V)) :
    pairsOf (mapLive (· == k) tomb items) = adelete (pairsOf items) k := pairsOf_tomb _ items

theorem keysOf_tomb (p : String → Bool) (items : List (Slot V)) :
    keysOf (mapLive p tomb items) = (keysOf items).filter (fun x => !p x) := by
  rw [← map_fst_pairsOf, pairsOf_tomb, ← map_fst_pairsOf, List.filter_map]; rfl

theorem nodup_keysOf_tomb {items : List (Slot V)} (h : (keysOf items).Nodup) (p : String → Bool) :
    (keysOf (mapLive p tomb items)).Nodup := by
  rw [keysOf_tomb]; exact h.sublist List.filter_sublist

theorem mem_keysOf_tomb (items : List (Slot V)) (p : String → Bool) (x : String) :
    x ∈ keysOf (mapLive p tomb items) ↔ x ∈ keysOf items ∧ p x = false := by
  rw [keysOf_tomb, List.mem_filter, Bool.not_eq_true']

theorem posOf_tomb (items : List (Slot V)) (p : String → Bool) (x : String) (n : Nat) :
    posOf x n (mapLive p tomb items) = if p x then none else posOf x n items := by
  cases hx : p x
  · refine posOf_map _ n items fun s _ => ?_
    split
    · next hc =>
      rw [Bool.and_eq_true, Bool.not_eq_true'] at hc
      rw [hc.1, beq_eq_false_iff_ne.2 fun e =>
        Bool.false_ne_true (hx.symm.trans ((congrArg p e).symm.trans hc.2))]; rfl
    · rfl
  · rw [if_pos rfl, posOf_eq_none_iff, mem_keysOf_tomb, hx]
    exact fun h => Bool.noConfusion h.2

abbrev ren (k' : String) (v : V) : Slot V → Slot V := fun _ => { key := k', val := v }

theorem pairsOf_ren (k k' : String) (v : V) (items : List (Slot V)) :
    pairsOf (mapLive (· == k) (ren k' v) items) =
      (pairsOf items).map (fun p => if p.1 == k then (k', v) else p) := by
  induction items with
  | nil => rfl
  | cons s r ih =>
    rcases s with ⟨a, w, _ | _⟩
    · by_cases ha : a = k <;> simp [mapLive_cons, pairsOf_cons, ha, ih]
    · exact ih

theorem keysOf_ren (k k' : String) (v : V) (items : List (Slot V)) :
    keysOf (mapLive (· == k) (ren k' v) items) =
      (keysOf items).map (fun x => if x == k then k' else x) := by
  rw [← map_fst_pairsOf, pairsOf_ren, ← map_fst_pairsOf, List.map_map, List.map_map]
  refine List.map_congr_left fun p _ => ?_
  simp only [Function.comp_apply]
  split <;> rfl

theorem nodup_keysOf_ren {items : List (Slot V)} (h : (keysOf items).Nodup) {k k' : String}
    (v : V) (hk' : k' = k ∨ k' ∉ keysOf items) :
    (keysOf (mapLive (· == k) (ren k' v) items)).Nodup := by
  rw [keysOf_ren, List.Nodup, List.pairwise_map]
  refine h.imp_of_mem fun {a b} ha hb hab e => ?_
  have hk'' : ∀ x ∈ keysOf items, x ≠ k → k' ≠ x := fun x hx hxk e =>
    hk'.elim (fun e' => hxk (e ▸ e')) (fun hn => hn (e ▸ hx))
  by_cases ha' : a = k <;> by_cases hb' : b = k <;> simp [ha', hb'] at e
  · exact hab (ha'.trans hb'.symm)
  · exact hk'' b hb hb' e
  · exact hk'' a ha ha' e.symm
  · exact hab e

theorem posOf_ren {items : List (Slot V)} {k k' : String} (v : V)
    (hk' : k' = k ∨ k' ∉ keysOf items) (x : String) (n : Nat) :
    posOf x n (mapLive (· == k) (ren k' v) items) =
      if x = k' then posOf k n items else if x = k then none else posOf x n items := by
  by_cases hx : x = k'
  · rw [if_pos hx, hx]
    refine posOf_map _ n items fun s hs => ?_
    split
    · next hc => rw [hc, beq_self_eq_true]; rfl
    · next hc =>
      rcases hk' with rfl | hk'
      · rfl
      · rw [Bool.not_eq_true] at hc
        rw [hc]
        cases hd : s.deleted
        · exact (Bool.true_and _).trans (beq_eq_false_iff_ne.2 fun e => hk' (e ▸ mem_keysOf hs hd))
        · rfl
  · rw [if_neg hx]
    by_cases hk : x = k
    · rw [if_pos hk, posOf_eq_none_iff, keysOf_ren, hk, List.mem_map]
      rintro ⟨y, -, e⟩
      split at e
      · exact hx (hk.trans e.symm)
      · next hy => exact hy (beq_iff_eq.2 e)
    · rw [if_neg hk]
      refine posOf_map _ n items fun s _ => ?_
      split
      · next hc =>
        rw [Bool.and_eq_true, Bool.not_eq_true', beq_iff_eq] at hc
        rw [hc.1, hc.2, beq_eq_false_iff_ne.2 (Ne.symm hk), beq_eq_false_iff_ne.2 (Ne.symm hx)]
      · rfl

/-! `Inv` is stated over the model's `live` and `liveIdxFrom`; here it is built and read through
    `keysOf` and `posOf`. -/

theorem Inv.mk' {items : List (Slot V)} {ix : Index} (h1 : (ix.map (·.1)).Nodup)
    (h2 : ∀ k, ix.lookup k = posOf k 0 items) (h3 : (keysOf items).Nodup) :
    Inv ({ items := items, index := some ix } : CMap V) :=
  ⟨nofun, fun _ e => Option.some.inj e ▸ h1,
    fun _ e k => Option.some.inj e ▸ (h2 k).trans (lookup_liveIdxFrom ..).symm, h3⟩

theorem Inv.keys {c : CMap V} (h : Inv c) : (keysOf c.items).Nodup := h.keysNodup

theorem Inv.lookup {c : CMap V} (h : Inv c) {ix : Index} (e : c.index = some ix) (k : String) :
    ix.lookup k = posOf k 0 c.items := by
  rw [h.idxLookup ix e k, lookup_liveIdxFrom]

theorem Inv.ensureNodup {c : CMap V} (h : Inv c) : ((ensureIndex c).map (·.1)).Nodup := by
  unfold ensureIndex
  cases e : c.index with
  | none => exact List.nodup_nil
  | some ix => exact h.idxNodup ix e

theorem Inv.ensureLookup {c : CMap V} (h : Inv c) (k : String) :
    (ensureIndex c).lookup k = posOf k 0 c.items := by
  unfold ensureIndex
  cases e : c.index with
  | none => rw [h.nilIndex e]; rfl
  | some ix => exact h.lookup e k

theorem lookup_idxSet_append {items : List (Slot V)} {ix : Index} {k : String} (v : V)
    (hk : k ∉ keysOf items) {x : String} (hx : x ≠ k → ix.lookup x = posOf x 0 items) :
    (idxSet ix k items.length).lookup x = posOf x 0 (items ++ [{ key := k, val := v }]) := by
  rw [lookup_idxSet, posOf_append]
  by_cases e : x = k
  · rw [if_pos e, e, (posOf_eq_none_iff k 0 items).2 hk]
    simp [posOf]
  · rw [if_neg e, hx e]
    simp [posOf, Ne.symm e]

theorem inv_append {items : List (Slot V)} {ix : Index} {k : String} (v : V)
    (h1 : (ix.map (·.1)).Nodup)
    (h2 : ∀ x, x ≠ k → ix.lookup x = posOf x 0 items)
    (h3 : (keysOf items).Nodup) (hk : k ∉ keysOf items) :
    Inv ({ items := items ++ [{ key := k, val := v }],
           index := some (idxSet ix k items.length) } : CMap V) := by
  refine Inv.mk' (nodup_idxSet h1 k _) (fun x => lookup_idxSet_append v hk (h2 x)) ?_
  rw [keysOf_split items [] rfl, List.nodup_append]
  refine ⟨h3, by simp, fun a ha b hb e => ?_⟩
  rw [keysOf_nil, List.mem_singleton] at hb
  subst e hb
  exact hk ha

theorem len_eq {c : CMap V} (h : Inv c) : len c = (abs c).length := by
  unfold len abs
  cases e : c.index with
  | none => rw [h.nilIndex e]; rfl
  | some ix =>
    have hp : (ix.map (·.1)).Perm (keysOf c.items) :=
      (List.perm_ext_iff_of_nodup (h.idxNodup ix e) h.keys).2 fun k => by
        rw [← lookup_isSome_iff_keys, h.lookup e k, posOf_isSome_iff]
    simpa [← map_fst_pairsOf] using hp.length_eq

theorem isZero_eq {c : CMap V} (h : Inv c) : isZero c = (abs c).isEmpty := by
  rw [isZero, len_eq h]
  cases abs c <;> rfl

theorem set_eq_of_some {c : CMap V} (h : Inv c) {k : String} {i : Nat}
    (hp : posOf k 0 c.items = some i) (v : V) :
    set c k v =
      { items := mapLive (· == k) (ren k v) c.items, index := some (ensureIndex c) } := by
  unfold set
  simp only [idxGet, h.ensureLookup, hp]
  rw [modAt_eq_mapLive _ h.keys hp]
  -- `Set` keeps the slot and writes its value; on a live slot of `k` that is the slot `(k, v)`
  exact congrArg (CMap.mk · _) (mapLive_congr (fun s hd hk => by rw [hd, beq_iff_eq.1 hk]) _)

theorem set_eq_of_none {c : CMap V} (h : Inv c) {k : String}
    (hp : posOf k 0 c.items = none) (v : V) :
    set c k v = { items := c.items ++ [{ key := k, val := v }],
                  index := some (idxSet (ensureIndex c) k c.items.length) } := by
  unfold set
  simp only [idxGet, h.ensureLookup, hp]

theorem inv_abs_set {c : CMap V} (h : Inv c) (k : String) (v : V) :
    Inv (set c k v) ∧ abs (set c k v) = aset (abs c) k v := by
  unfold aset abs
  cases hp : posOf k 0 c.items with
  | none =>
    have hk := (posOf_eq_none_iff k 0 _).1 hp
    rw [set_eq_of_none h hp, lookup_pairsOf_eq_none hk]
    exact ⟨inv_append v h.ensureNodup (fun x _ => h.ensureLookup x) h.keys hk,
      pairsOf_split c.items [] rfl⟩
  | some i =>
    rw [set_eq_of_some h hp, (lookup_pairsOf_isSome _ _).2 (mem_keysOf_of_posOf hp)]
    refine ⟨Inv.mk' h.ensureNodup (fun x => ?_) (nodup_keysOf_ren h.keys v (Or.inl rfl)),
      pairsOf_ren k k v _⟩
    rw [h.ensureLookup, posOf_ren v (Or.inl rfl)]
    by_cases hx : x = k <;> simp [hx]

/-- Loop invariant of `compact`: the index is right for the slots copied so far, except at the keys
    still to come. -/
theorem compactLoop_spec (ix : Index) (rest pairs : List (Slot V))
    (hix : (ix.map (·.1)).Nodup)
    (hnd : (keysOf pairs ++ keysOf rest).Nodup)
    (hl : ∀ k, k ∉ keysOf rest → ix.lookup k = posOf k 0 pairs) :
    Inv ⟨(compactLoop ix rest pairs).2, some (compactLoop ix rest pairs).1⟩ ∧
      pairsOf (compactLoop ix rest pairs).2 = pairsOf pairs ++ pairsOf rest := by
  induction rest generalizing ix pairs with
  | nil =>
    rw [keysOf_nil, List.append_nil] at hnd
    exact ⟨Inv.mk' hix (fun k => hl k List.not_mem_nil) hnd, (List.append_nil _).symm⟩
  | cons p r ih =>
    rw [compactLoop, pairsOf_cons]
    rw [keysOf_cons] at hnd hl
    split
    · next hd =>
      rw [if_pos hd] at hnd hl
      exact ih ix pairs hix hnd hl
    · next hd =>
      rw [if_neg hd] at hnd hl
      have hp := (not_mem_of_nodup_split hnd).1
      have := ih (idxSet ix p.key pairs.length) (pairs ++ [{ key := p.key, val := p.val }])
        (nodup_idxSet hix _ _)
        (by rw [keysOf_split pairs [] rfl, List.append_assoc]; exact hnd)
        fun k hk => lookup_idxSet_append _ hp fun hx => hl k fun hm => (List.mem_cons.1 hm).elim hx hk
      rw [pairsOf_split pairs [] rfl, List.append_assoc] at this
      exact this

theorem inv_abs_compact {c : CMap V} (h : Inv c) : Inv (compact c) ∧ abs (compact c) = abs c := by
  obtain ⟨items, index⟩ := c
  cases index with
  | none => exact ⟨h, rfl⟩
  | some ix =>
    exact compactLoop_spec ix items [] (h.idxNodup ix rfl) h.keys fun k hk =>
      (h.lookup rfl k).trans ((posOf_eq_none_iff k 0 items).2 hk)

theorem inv_abs_delete {c : CMap V} (h : Inv c) (k : String) :
    Inv (delete c k) ∧ abs (delete c k) = adelete (abs c) k := by
  obtain ⟨items, index⟩ := c
  cases index with
  | none =>
    cases (h.nilIndex rfl : items = [])
    exact ⟨h, rfl⟩
  | some ix =>
    have hl : ix.lookup k = posOf k 0 items := h.lookup rfl k
    simp only [delete, idxGet, hl]
    cases hp : posOf k 0 items with
    | none =>
      refine ⟨h, ?_⟩
      rw [abs, ← pairsOf_tomb_key,
        mapLive_of_not_mem tomb (beq_false_of_not_mem ((posOf_eq_none_iff k 0 _).1 hp))]
    | some i =>
      simp only
      rw [modAt_eq_mapLive _ h.keys hp]
      have hc' : Inv ({ items := mapLive (· == k) tomb items, index := some (idxDel ix k) } : CMap V) :=
        Inv.mk' (nodup_idxDel (h.idxNodup ix rfl) k)
          (fun x => by rw [lookup_idxDel, posOf_tomb, h.lookup rfl x]; simp)
          (nodup_keysOf_tomb h.keys _)
      split
      · exact (inv_abs_compact hc').imp id (·.trans (pairsOf_tomb_key k items))
      · exact ⟨hc', pairsOf_tomb_key k items⟩

/-- The keys whose live slot `Replace(old, new, _)` tombstones: `new`, unless it is `old`
    (written as the complement of the filter in `areplace`). -/
abbrev clash (old new : String) : String → Bool := fun x => !(x != new || x == old)

theorem clash_eq_false {old new x : String} (h : x ≠ new ∨ x = old) : clash old new x = false := by
  rcases h with h | h <;> simp [h]

theorem clash_self (k x : String) : clash k k x = false :=
  clash_eq_false (Decidable.em (x = k)).symm

theorem clash_of_ne {old new : String} (h : old ≠ new) : clash old new = (· == new) := by
  funext x
  show (!(!(x == new) || x == old)) = (x == new)
  by_cases hx : x = new
  · rw [hx, beq_self_eq_true, beq_eq_false_iff_ne.2 h.symm]; rfl
  · rw [beq_eq_false_iff_ne.2 hx]; rfl

theorem replace_of_some {c : CMap V} (h : Inv c) {old new : String} {i : Nat}
    (hp : posOf old 0 c.items = some i) (v : V) :
    replace c old new v =
      { items := mapLive (· == old) (ren new v) (mapLive (clash old new) tomb c.items),
        index := some (idxSet (idxDel (ensureIndex c) old) new i) } := by
  unfold replace
  simp only [idxGet, h.ensureLookup, hp]
  by_cases hne : old = new
  · subst hne
    simp only [bne_self_eq_false, Bool.false_eq_true, ↓reduceIte]
    rw [modAt_eq_mapLive _ h.keys hp, mapLive_of_not_mem tomb fun x _ => clash_self old x,
      idxSet_idxDel]
  · simp only [bne_iff_ne.2 hne, ↓reduceIte]
    -- tombstoning `new` leaves `old` where it was, so the second write is key-directed as well
    have hp' : posOf old 0 (mapLive (· == new) tomb c.items) = some i := by
      rw [posOf_tomb, beq_eq_false_iff_ne.2 hne, hp]; rfl
    rw [clash_of_ne hne]
    cases hq : posOf new 0 c.items with
    | none =>
      simp only
      rw [mapLive_of_not_mem tomb (beq_false_of_not_mem ((posOf_eq_none_iff new 0 _).1 hq))]
        at hp' ⊢
      rw [modAt_eq_mapLive _ h.keys hp']
    | some j =>
      simp only
      rw [modAt_eq_mapLive _ h.keys hq, modAt_eq_mapLive _ (nodup_keysOf_tomb h.keys _) hp']

theorem replace_of_none {c : CMap V} (h : Inv c) {old new : String}
    (hp : posOf old 0 c.items = none) (v : V) :
    replace c old new v =
      { items := mapLive (clash old new) tomb c.items ++ [{ key := new, val := v }],
        index := some (idxSet (idxDel (ensureIndex c) old) new
          (mapLive (clash old new) tomb c.items).length) } := by
  unfold replace
  simp only [idxGet, h.ensureLookup, hp]
  rw [length_mapLive]
  by_cases hne : old = new
  · subst hne
    simp only [bne_self_eq_false, Bool.false_eq_true, ↓reduceIte]
    rw [modAt_length_append, mapLive_of_not_mem tomb fun x _ => clash_self old x, idxSet_idxDel]
  · simp only [bne_iff_ne.2 hne, ↓reduceIte]
    rw [clash_of_ne hne]
    cases hq : posOf new 0 c.items with
    | none =>
      rw [mapLive_of_not_mem _ (beq_false_of_not_mem ((posOf_eq_none_iff new 0 _).1 hq)),
        modAt_length_append]
    | some j =>
      simp only
      rw [modAt_append_left _ (posOf_lt hq), modAt_eq_mapLive _ h.keys hq,
        ← length_mapLive (· == new) tomb c.items, modAt_length_append, length_mapLive]

theorem inv_abs_replace {c : CMap V} (h : Inv c) (o n : String) (v : V) :
    Inv (replace c o n v) ∧ abs (replace c o n v) = areplace (abs c) o n v := by
  -- the slots after the tombstoning step: their pairs are the filtered list of `areplace`, every key
  -- but a tombstoned `n` sits where it sat, and `n` is gone unless it is `o`
  have hl : (pairsOf c.items).filter (fun p => p.1 != n || p.1 == o) =
      pairsOf (mapLive (clash o n) tomb c.items) := by
    rw [pairsOf_tomb]; simp only [Bool.not_not]
  have hT := nodup_keysOf_tomb h.keys (clash o n)
  have hpT : ∀ x, x ≠ n ∨ x = o →
      posOf x 0 (mapLive (clash o n) tomb c.items) = posOf x 0 c.items := fun x hx => by
    rw [posOf_tomb, clash_eq_false hx]; rfl
  have hnT : n = o ∨ n ∉ keysOf (mapLive (clash o n) tomb c.items) := by
    by_cases e : n = o
    · exact .inl e
    · exact .inr fun hm => by simpa [e] using ((mem_keysOf_tomb ..).1 hm).2
  unfold areplace abs
  simp only [hl]
  cases hp : posOf o 0 c.items with
  | none =>
    have ho : o ∉ keysOf (mapLive (clash o n) tomb c.items) := fun hm =>
      (posOf_eq_none_iff o 0 _).1 hp ((mem_keysOf_tomb ..).1 hm).1
    rw [replace_of_none h hp, lookup_pairsOf_eq_none ho]
    refine ⟨inv_append v (nodup_idxDel h.ensureNodup o) (fun x hx => ?_) hT
      (hnT.elim (fun e => e ▸ ho) id), pairsOf_split _ [] rfl⟩
    rw [lookup_idxDel, h.ensureLookup, hpT x (.inl hx)]
    split
    · next e => rw [e, hp]
    · rfl
  | some i =>
    have ho : o ∈ keysOf (mapLive (clash o n) tomb c.items) :=
      (mem_keysOf_tomb ..).2 ⟨mem_keysOf_of_posOf hp, clash_eq_false (.inr rfl)⟩
    rw [replace_of_some h hp, (lookup_pairsOf_isSome _ _).2 ho]
    refine ⟨Inv.mk' (nodup_idxSet (nodup_idxDel h.ensureNodup o) _ _) (fun x => ?_)
      (nodup_keysOf_ren hT v hnT), pairsOf_ren o n v _⟩
    rw [lookup_idxSet, lookup_idxDel, h.ensureLookup, posOf_ren v hnT, hpT o (.inr rfl), hp]
    by_cases hx : x = n
    · simp [hx]
    · rw [hpT x (.inl hx)]

theorem step_refines {c : CMap V} (h : Inv c) (op : Op V) :
    Inv (step c op) ∧ abs (step c op) = astep (abs c) op := by
  cases op with
  | set k v => exact inv_abs_set h k v
  | replace o n v => exact inv_abs_replace h o n v
  | delete k => exact inv_abs_delete h k

theorem skipDel_eq_nil {l : List (Slot V)} (h : skipDel l = []) : pairsOf l = [] := by
  induction l with
  | nil => rfl
  | cons s r ih =>
    simp only [skipDel] at h
    split at h
    · rename_i hd; simp [pairsOf_cons, hd, ih h]
    · simp at h

theorem skipDel_eq_cons {l r' : List (Slot V)} {a : Slot V} (h : skipDel l = a :: r') :
    pairsOf l = (a.key, a.val) :: pairsOf r' := by
  induction l with
  | nil => simp [skipDel] at h
  | cons s r ih =>
    simp only [skipDel] at h
    split at h
    · rename_i hd; simp [pairsOf_cons, hd, ih h]
    · rename_i hd
      simp at h
      obtain ⟨rfl, rfl⟩ := h
      simp [pairsOf_cons, hd]

theorem aequal_of_length_ne (veq : V → V → Bool) {l l' : AMap V} (h : l.length ≠ l'.length) :
    aequal veq l l' = false := by
  induction l generalizing l' with
  | nil => cases l' with
    | nil => exact (h rfl).elim
    | cons p r => rfl
  | cons p r ih => cases l' with
    | nil => rfl
    | cons p' r' =>
      rw [aequal, ih fun e => h (congrArg (· + 1) e), Bool.and_false]

/-- `equalLoop` answers `true` as soon as either side runs out, so it is `aequal` only on lists of
    equally many pairs; the `len` test in `equal` provides that. -/
theorem equalLoop_eq (veq : V → V → Bool) (as bs : List (Slot V))
    (hl : (pairsOf as).length = (pairsOf bs).length) :
    equalLoop veq as bs = aequal veq (pairsOf as) (pairsOf bs) := by
  fun_induction equalLoop veq as bs with
  | case1 as bs a as' b bs' ha hb hk =>
    rw [skipDel_eq_cons ha, skipDel_eq_cons hb, aequal, bne_iff_ne.1 hk |> beq_eq_false_iff_ne.2]
    rfl
  | case2 as bs a as' b bs' ha hb hk hv =>
    rw [Bool.not_eq_true'] at hv
    rw [skipDel_eq_cons ha, skipDel_eq_cons hb, aequal, hv, Bool.and_false]
    rfl
  | case3 as bs a as' b bs' ha hb hk hv ih =>
    rw [skipDel_eq_cons ha, skipDel_eq_cons hb] at hl ⊢
    rw [aequal, ← ih (Nat.succ.inj hl)]
    simp at hk hv
    simp [hk, hv]
  | case4 as bs hno =>
    cases ha : skipDel as with
    | nil =>
      rw [skipDel_eq_nil ha] at hl ⊢
      rw [List.eq_nil_of_length_eq_zero hl.symm]; rfl
    | cons a as' =>
      cases hb : skipDel bs with
      | nil =>
        rw [skipDel_eq_nil hb] at hl ⊢
        rw [List.eq_nil_of_length_eq_zero hl]; rfl
      | cons b bs' => exact (hno a as' b bs' ha hb).elim
theorem aequal_refl (veq : V → V → Bool) (hr : ∀ v, veq v v = true) (l : AMap V) :
    aequal veq l l = true := by
  induction l with
  | nil => simp [aequal]
  | cons p r ih => obtain ⟨k, v⟩ := p; simp [aequal, hr, ih]

theorem aequal_symm (veq : V → V → Bool) (hs : ∀ v w, veq v w = veq w v) (l l' : AMap V) :
    aequal veq l l' = aequal veq l' l := by
  induction l generalizing l' with
  | nil => cases l' <;> simp [aequal]
  | cons p r ih =>
    obtain ⟨k, v⟩ := p
    cases l' with
    | nil => simp [aequal]
    | cons p' r' =>
      obtain ⟨k', v'⟩ := p'
      simp only [aequal, ih r', hs v v']
      rw [BEq.comm (a := k)]

theorem aequal_iff (veq : V → V → Bool) (l l' : AMap V) :
    aequal veq l l' = true ↔
      akeys l = akeys l' ∧ List.Forall₂ (fun p q => veq p.2 q.2 = true) l l' := by
  induction l generalizing l' with
  | nil =>
    cases l' with
    | nil => simp [aequal, akeys]
    | cons p' r' => simp [aequal, akeys]
  | cons p r ih =>
    obtain ⟨k, v⟩ := p
    cases l' with
    | nil => simp [aequal, akeys]
    | cons p' r' =>
      obtain ⟨k', v'⟩ := p'
      simp only [aequal, Bool.and_eq_true, beq_iff_eq, ih r', akeys, List.map_cons,
        List.cons.injEq, List.forall₂_cons]
      exact and_and_and_comm

section RangeReplace
variable {E : Type}

theorem aRangeReplace_nil (f : String → V → Except E (String × V)) (done : AMap V) :
    aRangeReplace f done [] = .ok done := by
  rw [aRangeReplace]

theorem aRangeReplace_cons_error {f : String → V → Except E (String × V)} {k : String} {v : V}
    {e : E} (hf : f k v = .error e) (done rest : AMap V) :
    aRangeReplace f done ((k, v) :: rest) = .error e := by
  rw [aRangeReplace]; simp [hf]

theorem aRangeReplace_cons_same {f : String → V → Except E (String × V)} {k : String} {v v' : V}
    (hf : f k v = .ok (k, v')) (done rest : AMap V) :
    aRangeReplace f done ((k, v) :: rest) = aRangeReplace f (done ++ [(k, v')]) rest := by
  rw [aRangeReplace]; simp [hf]

theorem aRangeReplace_cons_ne {f : String → V → Except E (String × V)} {k k' : String} {v v' : V}
    (hf : f k v = .ok (k', v')) (hne : k' ≠ k) (done rest : AMap V) :
    aRangeReplace f done ((k, v) :: rest) =
      aRangeReplace f (adelete done k' ++ [(k', v')]) (adelete rest k') := by
  rw [aRangeReplace]; simp [hf, hne]

theorem replace_items {c : CMap V} (h : Inv c) {A B : List (Slot V)} {s : Slot V}
    (hi : c.items = A ++ s :: B) (hd : s.deleted = false) (k' : String) (v' : V) :
    (replace c s.key k' v').items =
      mapLive (clash s.key k') tomb A ++ { key := k', val := v' } :: mapLive (clash s.key k') tomb B := by
  have hnd := h.keys
  rw [hi, keysOf_split A B hd] at hnd
  have hm := not_mem_of_nodup_split hnd
  cases hp : posOf s.key 0 c.items with
  | none =>
    refine ((posOf_eq_none_iff _ 0 _).1 hp ?_).elim
    rw [hi, keysOf_split A B hd]; simp
  | some i =>
    rw [replace_of_some h hp, hi, mapLive_append, mapLive_cons, clash_eq_false (.inr rfl),
      Bool.and_false, if_neg Bool.false_ne_true]
    exact mapLive_split (p := (· == s.key)) _ hd (beq_self_eq_true _)
      (beq_false_of_not_mem fun hx => hm.1 ((mem_keysOf_tomb ..).1 hx).1)
      (beq_false_of_not_mem fun hx => hm.2 ((mem_keysOf_tomb ..).1 hx).1)

/-- The loop of `Range` with the cursor at `A.length`: `A` are the slots already passed, in their
    final form, `B` the slots ahead, of which there are as many as there is fuel. -/
theorem rangeReplaceLoop_refines (f : String → V → Except E (String × V)) :
    ∀ (n : Nat) (c : CMap V) (A B : List (Slot V)), Inv c → c.items = A ++ B → B.length = n →
      match rangeReplaceLoop f n A.length c with
      | .ok c' => Inv c' ∧ aRangeReplace f (pairsOf A) (pairsOf B) = .ok (abs c')
      | .error e => aRangeReplace f (pairsOf A) (pairsOf B) = .error e := by
  intro n
  induction n with
  | zero =>
    intro c A B h hi hn
    cases List.eq_nil_of_length_eq_zero hn
    exact ⟨h, by rw [pairsOf_nil, aRangeReplace_nil, abs, hi, List.append_nil]⟩
  | succ n ih =>
    intro c A B h hi hn
    cases B with
    | nil => cases hn
    | cons s B =>
      have hn' : B.length = n := Nat.succ.inj hn
      have hget : c.items[A.length]? = some s := by
        rw [hi, List.getElem?_append_right (Nat.le_refl _), Nat.sub_self]; rfl
      rw [rangeReplaceLoop, hget, pairsOf_cons]
      by_cases hd : s.deleted = true
      · simp only [hd, ↓reduceIte]
        have := ih c (A ++ [s]) B h (by simp [hi]) hn'
        simpa [pairsOf_append, pairsOf_cons, hd] using this
      · have hd' : s.deleted = false := Bool.not_eq_true _ ▸ hd
        simp only [hd', Bool.false_eq_true, ↓reduceIte]
        cases hf : f s.key s.val with
        | error e => exact aRangeReplace_cons_error hf _ _
        | ok kv =>
          obtain ⟨k', v'⟩ := kv
          simp only
          -- `Replace(s.key, k', v')` tombstones `k'` on both sides of the cursor (unless it is
          -- `s.key`): that is the `adelete done k'` and `adelete rest k'` of `aRangeReplace`
          have := ih _ (mapLive (clash s.key k') tomb A ++ [{ key := k', val := v' }])
            (mapLive (clash s.key k') tomb B) (inv_abs_replace h s.key k' v').1
            (by simp [replace_items h hi hd' k' v']) (by rw [length_mapLive]; exact hn')
          by_cases hk : k' = s.key
          · subst hk
            rw [aRangeReplace_cons_same hf]
            simpa [pairsOf_append, pairsOf_cons,
              mapLive_of_not_mem tomb fun x _ => clash_self s.key x] using this
          · rw [aRangeReplace_cons_ne hf hk]
            simpa [pairsOf_append, pairsOf_cons, clash_of_ne (Ne.symm hk), pairsOf_tomb_key,
              length_mapLive] using this

theorem rangeReplace_refines {c : CMap V} (h : Inv c) (f : String → V → Except E (String × V)) :
    (match rangeReplace f c with
     | .ok c' => Inv c' ∧ aRangeReplace f [] (abs c) = .ok (abs c')
     | .error e => aRangeReplace f [] (abs c) = .error e) := by
  unfold rangeReplace
  by_cases hz : isZero c = true
  · rw [if_pos hz]
    rw [isZero_eq h, List.isEmpty_iff] at hz
    exact ⟨h, by rw [hz, aRangeReplace_nil]⟩
  · rw [if_neg hz]
    exact rangeReplaceLoop_refines f c.items.length c [] c.items h rfl rfl

end RangeReplace

end GoPipeline.OMap
