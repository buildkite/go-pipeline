/-
  Env interpolation keeps a command step `CommandOK` (no signing, no step tree here).

  `CfgOK` (plugin configs) is characterised structurally (`USorted`).  The walkers of `Model/Interp.lean` hand on
  every property of the walked values (`interpSeq_forall`, `interpOMap_forall`, `interpUMap_inv`), so they preserve
  `NoUMap` / `USorted` / key-sortedness with no hypothesis on the transformer, and the only thing that can break
  `CommandOK` is an inline-remainder key landing on a declared key (`KeysSafe`, implied by `KeysFixed`; finding
  F21).  A Go-map walk with fixed top-level keys keeps every lookup, hence the kind the contents select
  (`selOf_interp`, `selOf_interp_cons`).
-/
import GoPipeline.Lemmas.Roundtrip
import GoPipeline.Lemmas.Interp
import GoPipeline.Lemmas.TreeInduction
namespace GoPipeline.SignedRT
open GoPipeline GoPipeline.Pipe GoPipeline.Parse GoPipeline.Marshal GoPipeline.Roundtrip
  GoPipeline.Unm

theorem lookup_cons_ne {β : Type} {k f : String} (v : β) (r : List (String × β)) (h : f ≠ k) :
    ((k, v) :: r).lookup f = r.lookup f := by
  rw [Parse.lookup_cons_if, if_neg h]

section InterpOK
open GoPipeline.Interp
variable {E : Type}

/-! ## Plugin configs, structurally: `CfgOK` is "no ordered map, every Go map strictly key-sorted" -/

mutual
  /-- A `ToMapRecursive` image: no ordered mapping at any depth, every Go map strictly sorted by key. -/
  def USorted : Val → Prop
    | .seq xs => USortedList xs
    | .omap _ => False
    | .umap kvs => Roundtrip.SortedK kvs ∧ USortedKVs kvs
    | _ => True
  def USortedList : List Val → Prop
    | [] => True
    | x :: r => USorted x ∧ USortedList r
  def USortedKVs : List (String × Val) → Prop
    | [] => True
    | (_, v) :: r => USorted v ∧ USortedKVs r
end

theorem uSortedKVs_iff : (l : List (String × Val)) → (USortedKVs l ↔ ∀ p ∈ l, USorted p.2)
  | [] => by simp [USortedKVs]
  | (k, v) :: r => by
    rw [USortedKVs, uSortedKVs_iff r]
    simp

theorem uSortedList_iff : (l : List Val) → (USortedList l ↔ ∀ x ∈ l, USorted x)
  | [] => by simp [USortedList]
  | x :: r => by
    rw [USortedList, uSortedList_iff r]
    simp

mutual
  theorem noUMap_rereadJ : (v : Val) → NoUMap (rereadJ v)
    | .null => by simp [rereadJ, NoUMap]
    | .bool _ => by simp [rereadJ, NoUMap]
    | .int _ => by simp [rereadJ, NoUMap]
    | .float _ => by simp [rereadJ, NoUMap]
    | .time _ => by simp [rereadJ, NoUMap]
    | .str _ => by simp [rereadJ, NoUMap]
    | .seq xs => by rw [rereadJ, NoUMap]; exact noUMap_rereadJList xs
    | .omap kvs => by rw [rereadJ, NoUMap]; exact noUMap_rereadJKVs kvs
    | .umap kvs => by rw [rereadJ, NoUMap]; exact noUMap_rereadJKVs kvs
  theorem noUMap_rereadJList : (xs : List Val) → NoUMapList (rereadJList xs)
    | [] => by simp [rereadJList, NoUMapList]
    | x :: r => by rw [rereadJList, NoUMapList]; exact ⟨noUMap_rereadJ x, noUMap_rereadJList r⟩
  theorem noUMap_rereadJKVs : (kvs : List (String × Val)) → NoUMapKVs (rereadJKVs kvs)
    | [] => by simp [rereadJKVs, NoUMapKVs]
    | (k, v) :: r => by rw [rereadJKVs, NoUMapKVs]; exact ⟨noUMap_rereadJ v, noUMap_rereadJKVs r⟩
end

mutual
  theorem toMapRec_reread_of_uSorted : (v : Val) → USorted v → toMapRec (rereadJ v) = v
    | .null, _ | .bool _, _ | .int _, _ | .float _, _ | .time _, _ | .str _, _ => by simp [rereadJ, toMapRec]
    | .seq xs, h => by
      rw [rereadJ, toMapRec, toMapRec_reread_list xs (by simpa [USorted] using h)]
    | .omap kvs, h => by simp [USorted] at h
    | .umap kvs, h => by
      have h' : Roundtrip.SortedK kvs ∧ USortedKVs kvs := by simpa [USorted] using h
      rw [rereadJ, toMapRec, toMapRec_reread_kvs kvs h'.2, umapOf_sorted h'.1]
  theorem toMapRec_reread_list : (xs : List Val) → USortedList xs → toMapRecList (rereadJList xs) = xs
    | [], _ => rfl
    | x :: r, h => by
      rw [USortedList] at h
      rw [rereadJList, toMapRecList, toMapRec_reread_of_uSorted x h.1, toMapRec_reread_list r h.2]
  theorem toMapRec_reread_kvs : (kvs : List (String × Val)) → USortedKVs kvs →
      toMapRecKVs (rereadJKVs kvs) = kvs
    | [], _ => rfl
    | (k, v) :: r, h => by
      rw [USortedKVs] at h
      rw [rereadJKVs, toMapRecKVs, toMapRec_reread_of_uSorted v h.1, toMapRec_reread_kvs r h.2]
end

mutual
  theorem uSorted_toMapRec : (v : Val) → NoUMap v → USorted (toMapRec v)
    | .null, _ | .bool _, _ | .int _, _ | .float _, _ | .time _, _ | .str _, _ => by simp [toMapRec, USorted]
    | .seq xs, h => by
      rw [toMapRec, USorted]; exact uSorted_toMapRecList xs (by simpa [NoUMap] using h)
    | .omap kvs, h => by
      rw [toMapRec, USorted]
      refine ⟨sortedK_umapOf _, (uSortedKVs_iff _).2 fun p hp => ?_⟩
      exact uSorted_toMapRecKVs kvs (by simpa [NoUMap] using h) p (mem_umapOf hp)
    | .umap _, h => by simp [NoUMap] at h
  theorem uSorted_toMapRecList : (xs : List Val) → NoUMapList xs → USortedList (toMapRecList xs)
    | [], _ => by simp [toMapRecList, USortedList]
    | x :: r, h => by
      rw [NoUMapList] at h
      rw [toMapRecList, USortedList]
      exact ⟨uSorted_toMapRec x h.1, uSorted_toMapRecList r h.2⟩
  theorem uSorted_toMapRecKVs : (kvs : List (String × Val)) → NoUMapKVs kvs →
      ∀ p ∈ toMapRecKVs kvs, USorted p.2
    | [], _ => by simp [toMapRecKVs]
    | (k, v) :: r, h => by
      rw [NoUMapKVs] at h
      intro p hp
      rw [toMapRecKVs] at hp
      rcases List.mem_cons.1 hp with rfl | hp
      · exact uSorted_toMapRec v h.1
      · exact uSorted_toMapRecKVs r h.2 p hp
end

/-- The parser-image condition on plugin configs (`∃ v, NoUMap v ∧ c = toMapRec v`) is a structural one. -/
theorem cfgOK_iff_uSorted (c : Val) : CfgOK c ↔ USorted c := by
  constructor
  · rintro ⟨v, hv, rfl⟩
    exact uSorted_toMapRec v hv
  · intro h
    exact ⟨rereadJ c, noUMap_rereadJ c, (toMapRec_reread_of_uSorted c h).symm⟩

/-! ## The untyped walkers hand every property of the walked values on -/

theorem interpSeq_forall (tf : String → Except E String) (Q : Val → Prop) : (xs : List Val) →
    (∀ x ∈ xs, ∀ x', interpVal tf x = .ok x' → Q x') → ∀ xs', interpSeq tf xs = .ok xs' → ∀ x' ∈ xs', Q x'
  | [], _, xs', h => by
    rw [interpSeq] at h
    cases h
    exact fun _ hx => nomatch hx
  | x :: r, hq, xs', h => by
    rw [interpSeq] at h
    cases hx : interpVal tf x with
    | error e => simp [hx] at h
    | ok x' =>
      cases hr : interpSeq tf r with
      | error e => simp [hx, hr] at h
      | ok r' =>
        simp only [hx, hr, Except.ok.injEq] at h
        subst h
        intro y hy
        rcases List.mem_cons.1 hy with rfl | hy
        · exact hq x List.mem_cons_self _ hx
        · exact interpSeq_forall tf Q r (fun x hx => hq x (List.mem_cons_of_mem _ hx)) r' hr y hy

theorem interpOMap_forall (tf : String → Except E String) (Q : Val → Prop) : (rest : List (String × Val)) →
    (∀ p ∈ rest, ∀ v', interpVal tf p.2 = .ok v' → Q v') → ∀ done dead r, (∀ p ∈ done, Q p.2) →
    interpOMap tf done dead rest = .ok r → ∀ p ∈ r, Q p.2
  | [], _, done, dead, r, hd, h => by
    rw [interpOMap] at h
    cases h
    exact hd
  | (k, v) :: rest, hq, done, dead, r, hd, h => by
    have ih := interpOMap_forall tf Q rest (fun p hp => hq p (List.mem_cons_of_mem _ hp))
    rw [interpOMap] at h
    split at h
    · exact ih done dead r hd h
    · cases hk : tf k with
      | error e => simp [hk] at h
      | ok k' =>
        cases hv : interpVal tf v with
        | error e => simp [hk, hv] at h
        | ok v' =>
          simp only [hk, hv] at h
          -- either way the new entry is appended to (a part of) `done`
          have hd' : ∀ done', (∀ p ∈ done', p ∈ done) → ∀ p ∈ done' ++ [(k', v')], Q p.2 := by
            intro done' hsub p hp
            rcases List.mem_append.1 hp with hp | hp
            · exact hd p (hsub p hp)
            · rw [List.mem_singleton.1 hp]
              exact hq (k, v) List.mem_cons_self v' hv
          split at h
          · exact ih _ _ r (hd' done fun _ hp => hp) h
          · exact ih _ _ r (hd' _ fun _ hp => (List.mem_filter.1 hp).1) h

/-- A Go-map walk: the result is sorted, its values are walked values, every result key is the image of an
    input key. -/
theorem interpUMap_inv (tf : String → Except E String) (Q : Val → Prop) : (kvs : List (String × Val)) →
    (∀ p ∈ kvs, ∀ v', interpVal tf p.2 = .ok v' → Q v') → ∀ acc r, interpUMap tf acc kvs = .ok r →
    Roundtrip.SortedK acc → (∀ p ∈ acc, Q p.2) →
    Roundtrip.SortedK r ∧ (∀ p ∈ r, Q p.2) ∧
      ∀ k' ∈ r.map (·.1), k' ∈ acc.map (·.1) ∨ ∃ k ∈ kvs.map (·.1), tf k = .ok k'
  | [], _, acc, r, h, h1, h2 => by
    simp [interpUMap] at h; subst h
    exact ⟨h1, h2, fun k' hk' => .inl hk'⟩
  | (k, v) :: rest, hq, acc, r, h, h1, h2 => by
    rw [interpUMap] at h
    cases hk : tf k with
    | error e => simp [hk] at h
    | ok k' =>
      simp only [hk] at h
      cases hv : interpVal tf v with
      | error e => simp [hv] at h
      | ok v' =>
        simp only [hv] at h
        obtain ⟨r1, r2, r3⟩ := interpUMap_inv tf Q rest (fun p hp => hq p (List.mem_cons_of_mem _ hp)) _ r h
          (by rw [Interp.umapInsert_eq_parse]; exact sortedK_umapInsert _ _ _ h1)
          (by
            intro p hp
            rw [Interp.umapInsert_eq_parse] at hp
            rcases mem_umapInsert hp with rfl | hp
            · exact hq (k, v) List.mem_cons_self v' hv
            · exact h2 p hp)
        refine ⟨r1, r2, fun k'' hk'' => ?_⟩
        rcases r3 k'' hk'' with h' | ⟨k0, hk0, hk0'⟩
        · obtain ⟨p, hp, rfl⟩ := List.mem_map.1 h'
          rw [Interp.umapInsert_eq_parse] at hp
          rcases mem_umapInsert hp with rfl | hp
          · exact .inr ⟨k, by simp, hk⟩
          · exact .inl (List.mem_map_of_mem hp)
        · exact .inr ⟨k0, by simp only [List.map_cons, List.mem_cons]; exact .inr hk0, hk0'⟩

theorem interpVal_noUMap (tf : String → Except E String) : (v : Val) → NoUMap v →
    ∀ v', interpVal tf v = .ok v' → NoUMap v' := by
  intro v
  induction v using Val.induction with
  | null | bool _ | int _ | float _ | time _ =>
    intro _ v' h
    cases h
    trivial
  | str s =>
    intro _ v' h
    rw [interpVal] at h
    obtain ⟨t, _, rfl⟩ := map_eq_ok h
    trivial
  | seq xs ih =>
    intro hs v' h
    rw [NoUMap, noUMapList_iff] at hs
    rw [interpVal] at h
    obtain ⟨xs', hx, rfl⟩ := map_eq_ok h
    rw [NoUMap, noUMapList_iff]
    exact interpSeq_forall tf NoUMap xs (fun x hx => ih x hx (hs x hx)) xs' hx
  | omap kvs ih =>
    intro hs v' h
    rw [NoUMap, noUMapKVs_iff] at hs
    rw [interpVal] at h
    obtain ⟨r, hr, rfl⟩ := map_eq_ok h
    rw [NoUMap, noUMapKVs_iff]
    exact interpOMap_forall tf NoUMap kvs (fun p hp => ih p hp (hs p hp)) [] [] r (fun _ hp => nomatch hp) hr
  | umap kvs => exact fun hs => nomatch hs

theorem interpSeq_noUMap (tf : String → Except E String) : (xs : List Val) → NoUMapList xs →
    ∀ xs', interpSeq tf xs = .ok xs' → NoUMapList xs' := by
  intro xs hs xs' h
  rw [noUMapList_iff] at hs ⊢
  exact interpSeq_forall tf NoUMap xs (fun x hx => interpVal_noUMap tf x (hs x hx)) xs' h

theorem interpVal_uSorted (tf : String → Except E String) : (v : Val) → USorted v →
    ∀ v', interpVal tf v = .ok v' → USorted v' := by
  intro v
  induction v using Val.induction with
  | null | bool _ | int _ | float _ | time _ =>
    intro _ v' h
    cases h
    trivial
  | str s =>
    intro _ v' h
    rw [interpVal] at h
    obtain ⟨t, _, rfl⟩ := map_eq_ok h
    trivial
  | seq xs ih =>
    intro hs v' h
    rw [USorted, uSortedList_iff] at hs
    rw [interpVal] at h
    obtain ⟨xs', hx, rfl⟩ := map_eq_ok h
    rw [USorted, uSortedList_iff]
    exact interpSeq_forall tf USorted xs (fun x hx => ih x hx (hs x hx)) xs' hx
  | omap kvs => exact fun hs => nomatch hs
  | umap kvs ih =>
    intro hs v' h
    rw [USorted, uSortedKVs_iff] at hs
    rw [interpVal] at h
    obtain ⟨r, hr, rfl⟩ := map_eq_ok h
    rw [USorted, uSortedKVs_iff]
    obtain ⟨h1, h2, _⟩ := interpUMap_inv tf USorted kvs (fun p hp => ih p hp (hs.2 p hp)) [] r hr List.Pairwise.nil
      (fun _ hp => nomatch hp)
    exact ⟨h1, h2⟩

theorem interpSeq_uSorted (tf : String → Except E String) : (xs : List Val) → USortedList xs →
    ∀ xs', interpSeq tf xs = .ok xs' → USortedList xs' := by
  intro xs hs xs' h
  rw [uSortedList_iff] at hs ⊢
  exact interpSeq_forall tf USorted xs (fun x hx => interpVal_uSorted tf x (hs x hx)) xs' h

theorem interpUMap_uSorted (tf : String → Except E String) : (kvs : List (String × Val)) → USortedKVs kvs →
    ∀ acc r, Roundtrip.SortedK acc → (∀ p ∈ acc, USorted p.2) → interpUMap tf acc kvs = .ok r →
    Roundtrip.SortedK r ∧ ∀ p ∈ r, USorted p.2 := by
  intro kvs hs acc r h1 h2 h
  obtain ⟨a, b, _⟩ := interpUMap_inv tf USorted kvs
    (fun p hp => interpVal_uSorted tf p.2 ((uSortedKVs_iff kvs).1 hs p hp)) acc r h h1 h2
  exact ⟨a, b⟩

theorem cfgOK_interp (tf : String → Except E String) {c c' : Val} (h : CfgOK c) (hi : interpVal tf c = .ok c') :
    CfgOK c' :=
  (cfgOK_iff_uSorted c').2 (interpVal_uSorted tf c ((cfgOK_iff_uSorted c).1 h) c' hi)

theorem interpUMapV_inv (tf : String → Except E String) (rem rem' : UMap Val)
    (hn : ∀ p ∈ rem.getD [], NoUMap p.2) (h : interpUMapV tf rem = .ok rem') :
    Roundtrip.SortedK (rem'.getD []) ∧ (∀ p ∈ rem'.getD [], NoUMap p.2) ∧
      ∀ k' ∈ (rem'.getD []).map (·.1), ∃ k ∈ (rem.getD []).map (·.1), tf k = .ok k' := by
  cases rem with
  | none =>
    simp only [interpUMapV, Except.ok.injEq] at h; subst h
    exact ⟨List.Pairwise.nil, by simp, by simp⟩
  | some kvs =>
    rw [interpUMapV] at h
    obtain ⟨r, hr, rfl⟩ := map_eq_ok h
    simp only [Option.getD_some] at hn ⊢
    obtain ⟨h1, h2, h3⟩ := interpUMap_inv tf NoUMap kvs
      (fun p hp v' hv => interpVal_noUMap tf p.2 (hn p hp) v' hv) [] r hr List.Pairwise.nil (by simp)
    refine ⟨h1, h2, fun k' hk' => ?_⟩
    rcases h3 k' hk' with h' | h'
    · simp at h'
    · exact h'

/-- No key of the Go map `rem` is sent by the transformer to one of the keys `bad`. -/
def RemSafe (tf : String → Except E String) (bad : List String) (rem : UMap Val) : Prop :=
  ∀ k ∈ (rem.getD []).map (·.1), ∀ k', tf k = .ok k' → k' ∉ bad

/-- The transformer fixes every key of the Go map `rem` (top level only). -/
def RemFixed (tf : String → Except E String) (rem : UMap Val) : Prop :=
  ∀ k ∈ (rem.getD []).map (·.1), tf k = .ok k

theorem remSafe_of_fixed {tf : String → Except E String} {bad : List String} {rem : UMap Val}
    (hfix : RemFixed tf rem) (hbad : ∀ k ∈ bad, (rem.getD []).lookup k = none) : RemSafe tf bad rem := by
  intro k hk k' hk' hb
  rw [hfix k hk] at hk'
  injection hk' with hk'
  subst hk'
  exact (lookup_eq_none_iff_keys _ _).1 (hbad k hb) hk

/-- An inline remainder stays well-formed under interpolation exactly when none of its keys lands on a
    declared key of the struct. -/
theorem remOK_interp (tf : String → Except E String) (fs : List Field) (rem rem' : UMap Val) (hR : RemOK fs rem)
    (hsafe : RemSafe tf (normalKeys fs) rem) (h : interpUMapV tf rem = .ok rem') : RemOK fs rem' := by
  obtain ⟨h1, h2, h3⟩ := interpUMapV_inv tf rem rem' hR.noUMap h
  refine ⟨h1, h2, fun f hf hr => ?_⟩
  rw [(lookup_eq_none_iff_keys _ _)]
  intro hk
  obtain ⟨k, hk1, hk2⟩ := h3 _ hk
  exact hsafe k hk1 _ hk2 (mem_normalKeys_of hf hr)

/-! ## Typed Go maps: the result of a map walk is sorted -/

theorem interpUMapSAux_sorted (tf : String → Except E String) (kvs acc r : List (String × String))
    (ha : Roundtrip.SortedK acc) (h : interpUMapSAux tf acc kvs = .ok r) : Roundtrip.SortedK r := by
  induction kvs generalizing acc with
  | nil => simp [interpUMapSAux] at h; subst h; exact ha
  | cons p t ih =>
    obtain ⟨k, v⟩ := p
    rw [interpUMapSAux] at h
    cases hk : tf k with
    | error e => simp [hk] at h
    | ok k' =>
      simp only [hk] at h
      cases hv : tf v with
      | error e => simp [hv] at h
      | ok v' =>
        simp only [hv] at h
        exact ih _ (by rw [Interp.umapInsert_eq_parse]; exact sortedK_umapInsert _ _ _ ha) h

theorem interpUMapS_sorted (tf : String → Except E String) (m m' : UMap String) (h : interpUMapS tf m = .ok m') :
    ∀ kvs, m' = some kvs → Roundtrip.SortedK kvs := by
  intro kvs hm
  subst hm
  cases m with
  | none => simp [interpUMapS] at h
  | some l =>
    rw [interpUMapS] at h
    obtain ⟨r, hr, hr'⟩ := map_eq_ok h
    injection hr' with hr'
    subst hr'
    exact interpUMapSAux_sorted tf l [] r List.Pairwise.nil hr

theorem interpSetupAux_sorted (tf : String → Except E String) (kvs acc r : List (String × Option (List String)))
    (ha : Roundtrip.SortedK acc) (h : interpSetupAux tf acc kvs = .ok r) : Roundtrip.SortedK r := by
  induction kvs generalizing acc with
  | nil => simp [interpSetupAux] at h; subst h; exact ha
  | cons p t ih =>
    obtain ⟨k, v⟩ := p
    unfold interpSetupAux at h
    cases hk : tf k with
    | error e => simp [hk] at h
    | ok k' =>
      simp only [hk] at h
      split at h
      · cases h
      · exact ih _ (by rw [Interp.umapInsert_eq_parse]; exact sortedK_umapInsert _ _ _ ha) h

theorem interpSetup_sorted (tf : String → Except E String) (m m' : UMap (Option (List String)))
    (h : interpSetup tf m = .ok m') : ∀ kvs, m' = some kvs → Roundtrip.SortedK kvs := by
  intro kvs hm
  subst hm
  cases m with
  | none => simp [interpSetup] at h
  | some l =>
    rw [interpSetup] at h
    obtain ⟨r, hr, hr'⟩ := map_eq_ok h
    injection hr' with hr'
    subst hr'
    exact interpSetupAux_sorted tf l [] r List.Pairwise.nil hr

/-! ## Plugins -/

theorem interpPlugins_ok (tf : String → Except E String) : (l l' : List (Option Plugin)) →
    interpPlugins tf l = .ok l' → (∀ p ∈ l, PluginOK p) → l'.length = l.length ∧ ∀ p ∈ l', PluginOK p
  | [], l', h, _ => by simp [interpPlugins] at h; subst h; simp
  | none :: r, l', h, hok => by
    obtain ⟨q, hq, _⟩ := hok none List.mem_cons_self
    cases hq
  | some p :: r, l', h, hok => by
    rw [interpPlugins] at h
    cases hp : interpPlugin tf p with
    | error e => simp [hp] at h
    | ok p' =>
      simp only [hp] at h
      cases hr : interpPlugins tf r with
      | error e => simp [hr] at h
      | ok r' =>
        simp only [hr, Except.ok.injEq] at h; subst h
        obtain ⟨h1, h2⟩ := interpPlugins_ok tf r r' hr (fun q hq => hok q (List.mem_cons_of_mem _ hq))
        refine ⟨by simp [h1], fun q hq => ?_⟩
        rcases List.mem_cons.1 hq with rfl | hq
        · obtain ⟨q0, hq0, hc⟩ := hok (some p) List.mem_cons_self
          injection hq0 with hq0
          subst hq0
          refine ⟨p', rfl, ?_⟩
          unfold interpPlugin at hp
          cases hs : tf p.source with
          | error e => simp [hs] at hp
          | ok s' =>
            simp only [hs] at hp
            cases hcfg : interpVal tf p.config with
            | error e => simp [hcfg] at hp
            | ok c' =>
              simp only [hcfg, Except.ok.injEq] at hp; subst hp
              exact cfgOK_interp tf hc hcfg
        · exact h2 q hq

/-! ## Matrix, cache -/

theorem interpAdjustment_ok (tf : String → Except E String) (a a' : Adjustment)
    (h : interpAdjustment tf a = .ok a') (hok : AdjOK a)
    (hsafe : RemSafe tf (normalKeys Gen.struct_MatrixAdjustment) a.rem) :
    AdjOK a' := by
  unfold interpAdjustment at h
  cases hw : interpUMapS tf a.with_ with
  | error e => simp [hw] at h
  | ok w =>
    simp only [hw] at h
    cases hs : interpVal tf a.skip with
    | error e => simp [hs] at h
    | ok s =>
      simp only [hs] at h
      cases hr : interpUMapV tf a.rem with
      | error e => simp [hr] at h
      | ok r =>
        simp only [hr, Except.ok.injEq] at h; subst h
        exact ⟨interpUMapS_sorted tf _ _ hw, interpVal_noUMap tf _ hok.skip _ hs,
          remOK_interp tf _ _ _ hok.rem hsafe hr⟩

theorem interpAdjustments_ok (tf : String → Except E String) : (l l' : List (Option Adjustment)) →
    interpAdjustments tf l = .ok l' →
    (∀ a, some a ∈ l → AdjOK a ∧ RemSafe tf (normalKeys Gen.struct_MatrixAdjustment) a.rem) →
    ∀ a', some a' ∈ l' → AdjOK a'
  | [], l', h, _ => by simp [interpAdjustments] at h; subst h; simp
  | none :: r, l', h, hok => by
    rw [interpAdjustments] at h
    obtain ⟨r', hr, rfl⟩ := map_eq_ok h
    intro a' ha'
    rcases List.mem_cons.1 ha' with ha' | ha'
    · cases ha'
    · exact interpAdjustments_ok tf r r' hr (fun a ha => hok a (List.mem_cons_of_mem _ ha)) a' ha'
  | some a :: r, l', h, hok => by
    rw [interpAdjustments] at h
    cases ha : interpAdjustment tf a with
    | error e => simp [ha] at h
    | ok a1 =>
      simp only [ha] at h
      cases hr : interpAdjustments tf r with
      | error e => simp [hr] at h
      | ok r' =>
        simp only [hr, Except.ok.injEq] at h; subst h
        intro a' ha'
        rcases List.mem_cons.1 ha' with ha' | ha'
        · injection ha' with ha'
          subst ha'
          obtain ⟨h1, h2⟩ := hok a List.mem_cons_self
          exact interpAdjustment_ok tf a a' ha h1 h2
        · exact interpAdjustments_ok tf r r' hr (fun a ha => hok a (List.mem_cons_of_mem _ ha)) a' ha'

theorem interpMatrix_ok (tf : String → Except E String) (m m' : Matrix) (h : interpMatrix .env tf m = .ok m')
    (hok : MatrixOK m) (hsafe : RemSafe tf (normalKeys Gen.struct_Matrix) m.rem)
    (hadj : ∀ l, m.adjustments = some l → ∀ a, some a ∈ l →
      RemSafe tf (normalKeys Gen.struct_MatrixAdjustment) a.rem) :
    MatrixOK m' := by
  simp only [interpMatrix] at h
  cases hs : interpSetup tf m.setup with
  | error e => simp [hs] at h
  | ok s =>
    simp only [hs] at h
    cases hl : m.adjustments with
    | none =>
      simp only [hl] at h
      cases hr : interpUMapV tf m.rem with
      | error e => simp [hr] at h
      | ok r =>
        simp only [hr, Except.ok.injEq] at h; subst h
        exact ⟨interpSetup_sorted tf _ _ hs, (fun l hl' => by cases hl'), remOK_interp tf _ _ _ hok.rem hsafe hr⟩
    | some l =>
      simp only [hl] at h
      cases ha : interpAdjustments tf l with
      | error e => simp [ha, Except.map] at h
      | ok l' =>
        simp only [ha, Except.map] at h
        cases hr : interpUMapV tf m.rem with
        | error e => simp [hr] at h
        | ok r =>
          simp only [hr, Except.ok.injEq] at h; subst h
          refine ⟨interpSetup_sorted tf _ _ hs, fun l1 hl1 a' ha' => ?_, remOK_interp tf _ _ _ hok.rem hsafe hr⟩
          simp only [Option.some.injEq] at hl1
          subst hl1
          exact interpAdjustments_ok tf l l' ha (fun a ha0 => ⟨hok.adjs l hl a ha0, hadj l hl a ha0⟩) a' ha'

theorem interpCache_ok (tf : String → Except E String) (k k' : Cache) (h : interpCache tf k = .ok k')
    (hR : RemOK Gen.struct_Cache k.rem) (hsafe : RemSafe tf (normalKeys Gen.struct_Cache) k.rem) :
    RemOK Gen.struct_Cache k'.rem := by
  unfold interpCache at h
  cases hn : tf k.name with
  | error e => simp [hn] at h
  | ok n =>
    simp only [hn] at h
    split at h
    · cases h
    · cases hs : tf k.size with
      | error e => simp [hs] at h
      | ok s =>
        simp only [hs] at h
        cases hr : interpUMapV tf k.rem with
        | error e => simp [hr] at h
        | ok r =>
          simp only [hr, Except.ok.injEq] at h; subst h
          exact remOK_interp tf _ _ _ hR hsafe hr

/-! ## The command step -/

/-- The side condition that finding F21 violates: no key of an inline remainder (the step's unknown fields, the
    cache's, the matrix's, each adjustment's) is sent by the transformer to a declared key of the struct it is inlined into (for the
    step itself also not to `commands`, the alias the parser claims before the struct). -/
def KeysSafe (tf : String → Except E String) (c : CommandStep) : Prop :=
  RemSafe tf ("commands" :: normalKeys Gen.struct_CommandStep) c.rem ∧
  (∀ k, c.cache = some k → RemSafe tf (normalKeys Gen.struct_Cache) k.rem) ∧
  (∀ m, c.matrix = some m → RemSafe tf (normalKeys Gen.struct_Matrix) m.rem ∧
    ∀ l, m.adjustments = some l → ∀ a, some a ∈ l → RemSafe tf (normalKeys Gen.struct_MatrixAdjustment) a.rem)

/-- The transformer fixes every (top-level) key of those four kinds of inline remainder.  Nothing else is needed: env names, `with` names,
    setup dimension names and the keys inside plugin configs and inside the values of the remainders may be
    rewritten freely (the walkers re-insert into a fresh sorted map). -/
def KeysFixed (tf : String → Except E String) (c : CommandStep) : Prop :=
  RemFixed tf c.rem ∧
  (∀ k, c.cache = some k → RemFixed tf k.rem) ∧
  (∀ m, c.matrix = some m → RemFixed tf m.rem ∧
    ∀ l, m.adjustments = some l → ∀ a, some a ∈ l → RemFixed tf a.rem)

theorem keysSafe_of_fixed {tf : String → Except E String} {c : CommandStep} (hok : CommandOK c)
    (h : KeysFixed tf c) : KeysSafe tf c := by
  obtain ⟨h1, h2, h3⟩ := h
  refine ⟨remSafe_of_fixed h1 ?_, fun k hk => remSafe_of_fixed (h2 k hk) fun k' hk' => (hok.cache k hk).prim' hk',
    fun m hm => ⟨remSafe_of_fixed (h3 m hm).1 fun k' hk' => (hok.matrix m hm).rem.prim' hk', fun l hl a ha =>
      remSafe_of_fixed ((h3 m hm).2 l hl a ha) fun k' hk' => ((hok.matrix m hm).adjs l hl a ha).rem.prim' hk'⟩⟩
  intro k' hk'
  rcases List.mem_cons.1 hk' with rfl | hk'
  · exact hok.noCommands
  · exact hok.rem.prim' hk'

theorem optM_ok' {α : Type} {f : α → Except E α} {o o' : Option α} (h : optM f o = .ok o') :
    ∀ a', o' = some a' → ∃ a, o = some a ∧ f a = .ok a' := by
  intro a' ha'
  rcases optM_ok f o o' h with ⟨_, h2⟩ | ⟨a, a1, h1, h2, h3⟩
  · rw [h2] at ha'; cases ha'
  · rw [h2] at ha'; injection ha' with ha'; subst ha'
    exact ⟨a, h1, h3⟩

/-- What a successful env interpolation of a command step did to the fields that `CommandOK` speaks of. -/
theorem interpCommand_env_ok (tf : String → Except E String) (c c₁ : CommandStep)
    (h : interpCommand .env tf c = .ok c₁) :
    optM (interpPlugins tf) c.plugins = .ok c₁.plugins ∧ interpUMapS tf c.env = .ok c₁.env ∧
      optM (interpMatrix .env tf) c.matrix = .ok c₁.matrix ∧ optM (interpCache tf) c.cache = .ok c₁.cache ∧
      interpUMapV tf c.rem = .ok c₁.rem := by
  rw [interpCommand_env_def] at h
  cases h1 : tf c.command with
  | error e => simp [h1] at h
  | ok command =>
  cases h2 : tf c.label with
  | error e => simp [h1, h2] at h
  | ok label =>
  cases h3 : optM (interpPlugins tf) c.plugins with
  | error e => simp [h1, h2, h3] at h
  | ok plugins =>
  cases h4 : tf c.key with
  | error e => simp [h1, h2, h3, h4] at h
  | ok key =>
  cases h5 : interpUMapS tf c.env with
  | error e => simp [h1, h2, h3, h4, h5] at h
  | ok env =>
  cases h6 : optM (interpMatrix .env tf) c.matrix with
  | error e => simp [h1, h2, h3, h4, h5, h6] at h
  | ok matrix =>
  cases h7 : optM (interpCache tf) c.cache with
  | error e => simp [h1, h2, h3, h4, h5, h6, h7] at h
  | ok cache =>
  cases h8 : interpUMapV tf c.rem with
  | error e => simp [h1, h2, h3, h4, h5, h6, h7, h8] at h
  | ok rem =>
  simp only [h1, h2, h3, h4, h5, h6, h7, h8, Except.ok.injEq] at h
  subst h
  exact ⟨rfl, rfl, rfl, rfl, rfl⟩

/-- Env interpolation keeps a command step well-formed as long as no inline-remainder key lands on a declared
    key.  No hypothesis on plugin sources / configs, env names, matrix dimension or `with` names. -/
theorem interpCommand_ok_safe (tf : String → Except E String) (c c₁ : CommandStep) (hok : CommandOK c)
    (h : interpCommand .env tf c = .ok c₁) (hsafe : KeysSafe tf c) : CommandOK c₁ := by
  obtain ⟨h3, h5, h6, h7, h8⟩ := interpCommand_env_ok tf c c₁ h
  obtain ⟨s1, s2, s3⟩ := hsafe
  obtain ⟨r1, r2, r3⟩ := interpUMapV_inv tf c.rem c₁.rem hok.rem.noUMap h8
  refine ⟨?_, ?_, ?_, ?_, ?_, ?_⟩
  · intro l hl
    obtain ⟨l0, hl0, hi⟩ := optM_ok' h3 l hl
    obtain ⟨hne, hall⟩ := hok.plugins l0 hl0
    obtain ⟨hlen, hall'⟩ := interpPlugins_ok tf l0 l hi hall
    refine ⟨?_, hall'⟩
    intro hnil
    subst hnil
    cases l0 with
    | nil => exact hne rfl
    | cons a t => simp at hlen
  · exact interpUMapS_sorted tf _ _ h5
  · intro mm hmm
    obtain ⟨m0, hm0, hi⟩ := optM_ok' h6 mm hmm
    exact interpMatrix_ok tf m0 mm hi (hok.matrix m0 hm0) (s3 m0 hm0).1 (s3 m0 hm0).2
  · intro k hk
    obtain ⟨k0, hk0, hi⟩ := optM_ok' h7 k hk
    exact interpCache_ok tf k0 k hi (hok.cache k0 hk0) (s2 k0 hk0)
  · exact remOK_interp tf _ _ _ hok.rem (fun k hk k' hk' hb => s1 k hk k' hk' (List.mem_cons_of_mem _ hb)) h8
  · rw [(lookup_eq_none_iff_keys _ _)]
    intro hk
    obtain ⟨k0, hk0, hk0'⟩ := r3 _ hk
    exact s1 k0 hk0 _ hk0' List.mem_cons_self

theorem interpCommand_ok (tf : String → Except E String) (c c₁ : CommandStep) (hok : CommandOK c)
    (h : interpCommand .env tf c = .ok c₁) (hfix : KeysFixed tf c) : CommandOK c₁ :=
  interpCommand_ok_safe tf c c₁ hok h (keysSafe_of_fixed hok hfix)

/-! ## The step level: the kind selection survives as well

  `CommandOK` is about the command step's own fields.  For the tree-level theorem the step must also still be
  SELECTED as a command step after the round trip (`StepOK (.command c)`), which depends on the unknown field
  `type` (key and value).  With fixed remainder keys the key `type` cannot appear or disappear; its value, if
  present, is a string the transformer has to keep. -/

theorem interpUMap_lookup_fixed (tf : String → Except E String) : (kvs : List (String × Val)) →
    (∀ k ∈ kvs.map (·.1), tf k = .ok k) → ∀ acc r, interpUMap tf acc kvs = .ok r →
    (∀ k, k ∉ kvs.map (·.1) → r.lookup k = acc.lookup k) ∧
    ((kvs.map (·.1)).Nodup → ∀ k v, (k, v) ∈ kvs → ∃ v', interpVal tf v = .ok v' ∧ r.lookup k = some v')
  | [], _, acc, r, h => by
    simp [interpUMap] at h; subst h
    exact ⟨fun _ _ => rfl, fun _ k v hm => by cases hm⟩
  | (k0, v0) :: rest, hfix, acc, r, h => by
    rw [interpUMap] at h
    have hk0 : tf k0 = .ok k0 := hfix k0 (by simp)
    simp only [hk0] at h
    cases hv : interpVal tf v0 with
    | error e => simp [hv] at h
    | ok v0' =>
      simp only [hv] at h
      obtain ⟨ih1, ih2⟩ := interpUMap_lookup_fixed tf rest
        (fun k hk => hfix k (by simp only [List.map_cons, List.mem_cons]; exact .inr hk)) _ r h
      refine ⟨fun k hk => ?_, fun hnd k v hm => ?_⟩
      · simp only [List.map_cons, List.mem_cons, not_or] at hk
        rw [ih1 k hk.2, Interp.umapInsert_eq_parse, Parse.lookup_umapInsert, if_neg hk.1]
      · simp only [List.map_cons, List.nodup_cons] at hnd
        rcases List.mem_cons.1 hm with hm | hm
        · injection hm with e1 e2
          subst e1 e2
          exact ⟨v0', hv, by rw [ih1 k hnd.1, Interp.umapInsert_eq_parse, Parse.lookup_umapInsert, if_pos rfl]⟩
        · exact ih2 hnd.2 k v hm

/-- If the Go map `c` has a `type` entry holding a string, the transformer fixes that string. -/
def TypeFixed (tf : String → Except E String) (c : UMap Val) : Prop :=
  ∀ s, (c.getD []).lookup "type" = some (.str s) → tf s = .ok s

theorem interpUMapV_sorted (tf : String → Except E String) (c c' : UMap Val) (h : interpUMapV tf c = .ok c') :
    Roundtrip.SortedK (c'.getD []) := by
  cases c with
  | none =>
    simp only [interpUMapV, Except.ok.injEq] at h; subst h
    exact List.Pairwise.nil
  | some kvs =>
    rw [interpUMapV] at h
    obtain ⟨r, hr, rfl⟩ := map_eq_ok h
    exact (interpUMap_inv tf (fun _ => True) kvs (fun _ _ _ _ => trivial) [] r hr List.Pairwise.nil
      (fun _ _ => trivial)).1

theorem interpUMapV_nil (tf : String → Except E String) (c c' : UMap Val) (h : interpUMapV tf c = .ok c')
    (hnil : c.getD [] = []) : c'.getD [] = [] := by
  cases c with
  | none =>
    simp only [interpUMapV, Except.ok.injEq] at h; subst h
    rfl
  | some kvs =>
    simp only [Option.getD_some] at hnil
    subst hnil
    simp only [interpUMapV, interpUMap, Except.map, Except.ok.injEq] at h
    subst h
    rfl

/-- With distinct and fixed top-level keys, every lookup of the walked map is the walked value of the same
    lookup of the original (no hypothesis on the values). -/
theorem interpUMapV_lookup (tf : String → Except E String) (c c' : UMap Val)
    (hnd : ((c.getD []).map (·.1)).Nodup) (hfix : RemFixed tf c) (h : interpUMapV tf c = .ok c') (k : String) :
    match (c.getD []).lookup k with
    | none => (c'.getD []).lookup k = none
    | some v => ∃ v', interpVal tf v = .ok v' ∧ (c'.getD []).lookup k = some v' := by
  cases hl : (c.getD []).lookup k with
  | none =>
    simp only
    rw [(lookup_eq_none_iff_keys _ _)]
    intro hk
    cases c with
    | none =>
      simp only [interpUMapV, Except.ok.injEq] at h; subst h
      simp at hk
    | some kvs =>
      rw [interpUMapV] at h
      obtain ⟨r, hr, rfl⟩ := map_eq_ok h
      obtain ⟨_, _, h3⟩ := interpUMap_inv tf (fun _ => True) kvs (fun _ _ _ _ => trivial) [] r hr
        List.Pairwise.nil (fun _ _ => trivial)
      rcases h3 k hk with h' | ⟨k0, hk0, hk0'⟩
      · simp at h'
      · rw [hfix k0 hk0] at hk0'
        injection hk0' with e
        subst e
        exact (lookup_eq_none_iff_keys _ _).1 hl hk0
  | some v =>
    simp only
    cases c with
    | none => simp at hl
    | some kvs =>
      rw [interpUMapV] at h
      obtain ⟨r, hr, rfl⟩ := map_eq_ok h
      simp only [Option.getD_some] at hl hnd hfix ⊢
      exact (interpUMap_lookup_fixed tf kvs hfix [] r hr).2 hnd k v (Parse.mem_of_lookup hl)

/-- A mapping that selects some kind has no non-string `type`. -/
theorem type_str_of_selOf {m : Entries} {sel : StepKind.Sel} (h : selOf m = .ok sel) :
    ∀ v, m.lookup "type" = some v → ∃ s, v = .str s := by
  intro v hv
  unfold selOf at h
  rw [hv] at h
  cases v with
  | str s => exact ⟨s, rfl⟩
  | _ => simp at h

theorem interp_lookups (tf : String → Except E String) (c c' : UMap Val)
    (hnd : ((c.getD []).map (·.1)).Nodup) (hfix : RemFixed tf c) (htype : TypeFixed tf c)
    (h : interpUMapV tf c = .ok c')
    (hstr : ∀ v, (c.getD []).lookup "type" = some v → ∃ s, v = .str s) :
    (c'.getD []).lookup "type" = (c.getD []).lookup "type" ∧
      ∀ k, ((c'.getD []).lookup k).isSome = ((c.getD []).lookup k).isSome := by
  refine ⟨?_, fun k => ?_⟩
  · have hlt := interpUMapV_lookup tf c c' hnd hfix h "type"
    cases hl : (c.getD []).lookup "type" with
    | none => rw [hl] at hlt; exact hlt
    | some v =>
      rw [hl] at hlt
      obtain ⟨v', hv', hlv'⟩ := hlt
      obtain ⟨s, rfl⟩ := hstr v hl
      rw [interpVal, htype s hl] at hv'
      simp only [Except.map, Except.ok.injEq] at hv'
      subst hv'
      exact hlv'
  · have hlt := interpUMapV_lookup tf c c' hnd hfix h k
    cases hl : (c.getD []).lookup k with
    | none => rw [hl] at hlt; rw [show (c'.getD []).lookup k = none from hlt]
    | some v =>
      rw [hl] at hlt
      obtain ⟨v', _, hlv'⟩ := hlt
      rw [hlv']
      rfl

theorem selOf_interp (tf : String → Except E String) (c c' : UMap Val)
    (hnd : ((c.getD []).map (·.1)).Nodup) (hfix : RemFixed tf c) (htype : TypeFixed tf c)
    (h : interpUMapV tf c = .ok c') {sel : StepKind.Sel} (hsel : selOf (c.getD []) = .ok sel) :
    selOf (c'.getD []) = .ok sel := by
  obtain ⟨h1, h2⟩ := interp_lookups tf c c' hnd hfix htype h (type_str_of_selOf hsel)
  rw [← hsel]
  exact selOf_eq_of h1 (fun _ k _ => h2 k)

/-- The same below one descriptor entry (`("group", null)` for a group step's unknown fields). -/
theorem selOf_interp_cons (tf : String → Except E String) (c c' : UMap Val)
    (hnd : ((c.getD []).map (·.1)).Nodup) (hfix : RemFixed tf c) (htype : TypeFixed tf c)
    (h : interpUMapV tf c = .ok c') (k0 : String) (v0 : Val) (hk0 : "type" ≠ k0) {sel : StepKind.Sel}
    (hsel : selOf ((k0, v0) :: c.getD []) = .ok sel) : selOf ((k0, v0) :: c'.getD []) = .ok sel := by
  have hstr : ∀ v, (c.getD []).lookup "type" = some v → ∃ s, v = .str s := by
    intro v hv
    apply type_str_of_selOf hsel v
    rw [lookup_cons_ne _ _ hk0]
    exact hv
  obtain ⟨h1, h2⟩ := interp_lookups tf c c' hnd hfix htype h hstr
  rw [← hsel]
  apply selOf_eq_of
  · rw [lookup_cons_ne _ _ hk0, lookup_cons_ne _ _ hk0]
    exact h1
  · intro _ k _
    rw [Parse.lookup_cons_if, Parse.lookup_cons_if]
    split
    · rfl
    · exact h2 k

end InterpOK

end GoPipeline.SignedRT
