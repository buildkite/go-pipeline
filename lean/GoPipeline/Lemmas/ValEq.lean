/-
  Decidable equality of decoded values, for the test vectors (`example : f doc = value := by decide +kernel`;
  the kernel compares string literals far more cheaply than the elaborator unfolds them under `rfl`). `Val` is
  a nested inductive type, which the `deriving` handler does not cover, so equality is decided by a Boolean
  comparison written by structural recursion, which the kernel can run.

  Also for the test vectors: derived `DecidableEq` for the typed step records (`Plugin`, `Signature`,
  `Adjustment`, `Matrix`, `Cache`, `CommandStep`), `Decidable (∃ c, x = .ok c ∧ P c)` for a decidable `P` (the
  shape "parses, and the result satisfies …"), and, through the import of `Model/Jwk`, its
  `DecidableEq (Except ε α)`.
-/
import GoPipeline.Lemmas.TreeInduction
import GoPipeline.Model.Jwk
import GoPipeline.Model.Pipeline
namespace GoPipeline

namespace Val

mutual
  def beq : Val → Val → Bool
    | .null, .null => true
    | .bool a, .bool b => a == b
    | .int a, .int b => a == b
    | .float a, .float b => a == b
    | .time a, .time b => a == b
    | .str a, .str b => a == b
    | .seq a, .seq b => beqList a b
    | .omap a, .omap b => beqKVs a b
    | .umap a, .umap b => beqKVs a b
    | _, _ => false
  def beqList : List Val → List Val → Bool
    | [], [] => true
    | a :: as, b :: bs => beq a b && beqList as bs
    | _, _ => false
  def beqKVs : List (String × Val) → List (String × Val) → Bool
    | [], [] => true
    | (k, a) :: as, (l, b) :: bs => k == l && beq a b && beqKVs as bs
    | _, _ => false
end

theorem beqList_iff {xs : List Val} (ih : ∀ x ∈ xs, ∀ b, beq x b = true ↔ x = b) :
    ∀ ys, beqList xs ys = true ↔ xs = ys := by
  induction xs with
  | nil => intro ys; cases ys <;> simp [beqList]
  | cons x r ihr =>
    intro ys
    cases ys with
    | nil => simp [beqList]
    | cons y s =>
      simp [beqList, ih x List.mem_cons_self, ihr (fun z hz => ih z (List.mem_cons_of_mem _ hz))]

theorem beqKVs_iff {xs : List (String × Val)} (ih : ∀ p ∈ xs, ∀ b, beq p.2 b = true ↔ p.2 = b) :
    ∀ ys, beqKVs xs ys = true ↔ xs = ys := by
  induction xs with
  | nil => intro ys; cases ys <;> simp [beqKVs]
  | cons x r ihr =>
    intro ys
    obtain ⟨k, a⟩ := x
    cases ys with
    | nil => simp [beqKVs]
    | cons y s =>
      obtain ⟨l, b⟩ := y
      simp [beqKVs, ih (k, a) List.mem_cons_self, ihr (fun z hz => ih z (List.mem_cons_of_mem _ hz)), and_assoc]

theorem beq_iff : ∀ a b : Val, beq a b = true ↔ a = b := by
  intro a
  induction a using Val.induction with
  | null => intro b; cases b <;> simp [beq]
  | bool x => intro b; cases b <;> simp [beq]
  | int x => intro b; cases b <;> simp [beq]
  | float x => intro b; cases b <;> simp [beq]
  | time x => intro b; cases b <;> simp [beq]
  | str x => intro b; cases b <;> simp [beq]
  | seq xs ih => intro b; cases b <;> simp [beq, beqList_iff ih]
  | omap xs ih => intro b; cases b <;> simp [beq, beqKVs_iff ih]
  | umap xs ih => intro b; cases b <;> simp [beq, beqKVs_iff ih]

end Val

instance : DecidableEq Val := fun a b => decidable_of_iff _ (Val.beq_iff a b)

deriving instance DecidableEq for Pipe.Plugin, Pipe.Signature, Pipe.Adjustment, Pipe.Matrix, Pipe.Cache, Pipe.CommandStep

/-- "`x` succeeds with a result satisfying `P`" is decided by running `x`. -/
instance {ε α : Type} (x : Except ε α) (P : α → Prop) [∀ c, Decidable (P c)] : Decidable (∃ c, x = .ok c ∧ P c) :=
  match x with
  | .ok c => decidable_of_iff (P c) (by simp)
  | .error _ => isFalse (by simp)

end GoPipeline
