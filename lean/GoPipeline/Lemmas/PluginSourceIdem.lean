/-
  C17/C09/C14 — canonicalisation of plugin sources is idempotent for EVERY string (since fix 3ced888,
  finding F17: `FullSource` concatenates instead of calling `path.Join`).

  A result of `core` is the input or a canonical form `github.com/x/y-buildkite-plugin[#frag]`; for
  `fullSourceQ` the pieces `x`, `y` are free of `/`, `#`, `?`, `%`, so that form has three segments and is
  returned as written. `fullSource` agrees with `fullSourceQ` wherever it is defined, and `Marshal.fullSource`
  is `(fullSourceQ l).getD l` on the characters of its argument: everything follows from the facts about
  `fullSourceQ`. Theorems named `_list` are about character lists.
-/
import GoPipeline.Model.Marshal
import GoPipeline.Lemmas.PluginSource
namespace GoPipeline.PluginSrc

/-- `github.com/x/y-buildkite-plugin[#frag]`. -/
def canon (x y frag : Str) : Str := githubCom ++ '/' :: x ++ '/' :: lastSegment y frag

/-- The part of a canonical form before the fragment. -/
def pre (x y : Str) : Str := githubCom ++ '/' :: x ++ '/' :: (y ++ suffix)

/-- What the org and name pieces of a canonical form produced by the code look like. -/
structure Piece (x : Str) : Prop where
  slash : '/' ∉ x
  hash : '#' ∉ x
  query : '?' ∉ x
  pct : '%' ∉ x

theorem canon_eq (x y frag : Str) : canon x y frag = pre x y ++ hashTail frag := by
  unfold canon pre
  rw [lastSegment_eq]
  simp

theorem canon_not_path (x y frag : Str) :
    ∃ c0 t, canon x y frag = c0 :: t ∧ (c0 == '/' || c0 == '.' || c0 == '\\') = false := by
  unfold canon githubCom
  rw [String.toList_ofList]
  exact ⟨_, _, rfl, rfl⟩

theorem not_mem_pre {x y : Str} {d : Char} (hd : isNameChar d = false) (hs : d ≠ '/') (hx : d ∉ x)
    (hy : d ∉ y) : d ∉ pre x y := by
  simp only [pre, List.mem_append, List.mem_cons, not_or]
  exact ⟨⟨name_not_mem githubCom_name hd, hs, hx⟩, hs, hy, name_not_mem suffix_name hd⟩

theorem cutHash_canon {x y : Str} (frag : Str) (hx : '#' ∉ x) (hy : '#' ∉ y) :
    cutHash (canon x y frag) = (pre x y, frag) := by
  have hn : '#' ∉ pre x y :=
    not_mem_pre (by decide) (by decide) hx hy
  rw [canon_eq]
  unfold hashTail
  by_cases hf : frag = []
  · simp only [hf, ↓reduceIte, List.append_nil]
    exact cutHash_of_not_mem hn
  · simp only [hf, ↓reduceIte]
    exact cutHash_append_hash _ hn

theorem splitOn_pre {x y : Str} (hx : '/' ∉ x) (hy : '/' ∉ y) :
    splitOn '/' (pre x y) = [githubCom, x, y ++ suffix] := by
  have hys : '/' ∉ y ++ suffix := by
    simp only [List.mem_append, not_or]; exact ⟨hy, name_not_mem suffix_name (by decide)⟩
  rw [pre, List.append_assoc, List.cons_append, splitOn_append_sep _ (name_not_mem githubCom_name (by decide)),
    splitOn_append_sep _ hx,
    splitOn_of_not_mem hys]

theorem pre_ne_star (x y : Str) : pre x y ≠ ['*'] := by
  intro e
  have : '/' ∈ pre x y := by simp [pre]
  rw [e] at this
  exact absurd this (by decide)

/-- A canonical form has three segments: it is returned as written. -/
theorem core_canon (cut : Str → Str) {x y : Str} (frag : Str) (hx : Piece x) (hy : Piece y)
    (hcut : cut (pre x y) = pre x y) : core cut (canon x y frag) = some (canon x y frag) := by
  apply core_unchanged
  · rw [cutHash_canon frag hx.hash hy.hash]
    exact pre_ne_star x y
  · rw [cutHash_canon frag hx.hash hy.hash, hcut, splitOn_pre hx.slash hy.slash]
    exact Or.inr (Or.inr (Nat.le_refl 3))

/-- Where a piece of a canonical form can come from. -/
def Src (cut : Str → Str) (s z : Str) : Prop :=
  z = bkPlugins ∨ (z = ['*'] ∧ (cutHash s).1 = ['*']) ∨ z ∈ splitOn '/' (cut (cutHash s).1)

theorem core_cases (cut : Str → Str) (s : Str) :
    ∃ r, core cut s = some r ∧
      (r = s ∨ ∃ x y, Src cut s x ∧ Src cut s y ∧ r = canon x y (cutHash s).2) := by
  unfold core Src
  generalize cutHash s = p
  obtain ⟨u, frag⟩ := p
  dsimp only
  split
  · exact ⟨_, rfl, Or.inl rfl⟩
  split
  · rename_i hstar
    have hu : u = ['*'] := by simpa using hstar
    exact ⟨_, rfl, Or.inr ⟨_, u, Or.inl rfl, Or.inr (Or.inl ⟨hu, hu⟩), rfl⟩⟩
  split
  · exact ⟨_, rfl, Or.inl rfl⟩
  · exact ⟨_, rfl, Or.inl rfl⟩
  split
  · exact ⟨_, rfl, Or.inl rfl⟩
  split
  · rename_i p0 hsp
    exact ⟨_, rfl, Or.inr ⟨_, p0, Or.inl rfl, Or.inr (Or.inr (hsp ▸ .head _)), rfl⟩⟩
  · rename_i p0 p1 hsp
    exact ⟨_, rfl, Or.inr ⟨p0, p1, Or.inr (Or.inr (hsp ▸ .head _)),
      Or.inr (Or.inr (hsp ▸ .tail _ (.head _))), rfl⟩⟩
  · exact ⟨_, rfl, Or.inl rfl⟩

theorem cutQuery_of_not_mem {a : Str} (ha : '?' ∉ a) : cutQuery a = a := by
  fun_induction cutQuery a with
  | case1 => rfl
  | case2 c r hc => exact absurd (eq_of_beq hc ▸ List.mem_cons_self) ha
  | case3 c r _ ih => rw [ih fun hm => ha (List.mem_cons_of_mem _ hm)]

theorem mem_of_mem_cutQuery (u : Str) : ∀ c ∈ cutQuery u, c ∈ u := by
  fun_induction cutQuery u with
  | case1 => exact fun _ h => h
  | case2 c r _ => exact fun _ h => absurd h List.not_mem_nil
  | case3 c r _ ih =>
    exact fun d hd => (List.mem_cons.1 hd).elim (fun e => e ▸ List.mem_cons_self)
      fun h => List.mem_cons_of_mem _ (ih d h)

theorem query_not_mem_cutQuery (u : Str) : '?' ∉ cutQuery u := by
  fun_induction cutQuery u with
  | case1 => exact List.not_mem_nil
  | case2 c r _ => exact List.not_mem_nil
  | case3 c r hc ih =>
    exact fun hm => (List.mem_cons.1 hm).elim (fun e => hc (e ▸ beq_self_eq_true _)) ih

theorem contains_false {s : Str} {d : Char} : s.contains d = false ↔ d ∉ s := by simp

theorem piece_of_src {s z : Str} (hp : '%' ∉ s) (hz : Src cutQuery s z) :
    Piece z ∧ ∀ c ∈ z, c ∈ bkPlugins ∨ c ∈ s := by
  have hsub := mem_of_mem_cutHash_fst s
  rcases hz with rfl | ⟨rfl, hu⟩ | hz
  · exact ⟨⟨name_not_mem bkPlugins_name (by decide), name_not_mem bkPlugins_name (by decide),
      name_not_mem bkPlugins_name (by decide), name_not_mem bkPlugins_name (by decide)⟩, fun c hc => Or.inl hc⟩
  · exact ⟨⟨by decide, by decide, by decide, by decide⟩, fun c hc => Or.inr (hsub c (hu ▸ hc))⟩
  · have hu : ∀ c ∈ z, c ∈ (cutHash s).1 := fun c hc =>
      mem_of_mem_cutQuery _ c (mem_of_mem_splitOn hz c hc)
    exact ⟨⟨not_mem_of_mem_splitOn z hz, fun hm => hash_not_mem_cutHash_fst s (hu _ hm),
      fun hm => query_not_mem_cutQuery _ (mem_of_mem_splitOn hz _ hm), fun hm => hp (hsub _ (hu _ hm))⟩,
      fun c hc => Or.inr (hsub c (hu c hc))⟩

theorem fullSourceQ_cases (s r : Str) (h : fullSourceQ s = some r) :
    r = s ∨ ∃ x y, (Piece x ∧ ∀ c ∈ x, c ∈ bkPlugins ∨ c ∈ s) ∧ (Piece y ∧ ∀ c ∈ y, c ∈ bkPlugins ∨ c ∈ s) ∧
      '%' ∉ (cutHash s).2 ∧ r = canon x y (cutHash s).2 := by
  cases s with
  | nil => left; simpa [fullSourceQ] using h.symm
  | cons c0 t =>
    rw [fullSourceQ_cons] at h
    split at h
    · left; exact (Option.some.inj h).symm
    split at h
    · exact absurd h (by simp)
    rename_i _ hp
    simp only [Bool.not_eq_true, contains_false] at hp
    obtain ⟨r', e, hr⟩ := core_cases cutQuery (c0 :: t)
    obtain rfl := Option.some.inj (e.symm.trans h)
    rcases hr with e | ⟨x, y, hx, hy, e⟩
    · exact Or.inl e
    · exact Or.inr ⟨x, y, piece_of_src hp hx, piece_of_src hp hy,
        fun hm => hp (mem_of_mem_cutHash_snd _ _ hm), e⟩

theorem not_mem_canon {x y frag : Str} {d : Char} (hd : isNameChar d = false) (hs : d ≠ '/') (hx : d ∉ x)
    (hy : d ∉ y) (hh : d ≠ '#') (hf : d ∉ frag) : d ∉ canon x y frag := by
  rw [canon_eq]
  simp only [List.mem_append, not_or]
  refine ⟨not_mem_pre hd hs hx hy, ?_⟩
  unfold hashTail
  split
  · simp
  · simp only [List.mem_cons, not_or]; exact ⟨hh, hf⟩

theorem fullSourceQ_canon {x y frag : Str} (hx : Piece x) (hy : Piece y) (hf : '%' ∉ frag) :
    fullSourceQ (canon x y frag) = some (canon x y frag) := by
  have hp := not_mem_canon (by decide) (by decide) hx.pct hy.pct (by decide) hf
  obtain ⟨c0, t, ht, h0⟩ := canon_not_path x y frag
  rw [ht] at hp ⊢
  rw [fullSourceQ_cons, h0, if_neg Bool.false_ne_true, contains_false.2 hp, if_neg Bool.false_ne_true, ← ht]
  exact core_canon cutQuery frag hx hy
    (cutQuery_of_not_mem (not_mem_pre (by decide) (by decide) hx.query hy.query))

theorem fullSourceQ_idem_list (s r : Str) (h : fullSourceQ s = some r) : fullSourceQ r = some r := by
  rcases fullSourceQ_cases s r h with e | ⟨x, y, hx, hy, hp, e⟩
  · rw [e]; rw [e] at h; exact h
  · rw [e]; exact fullSourceQ_canon hx.1 hy.1 hp

theorem core_congr {cut cut' : Str → Str} (s : Str) (h : cut (cutHash s).1 = cut' (cutHash s).1) :
    core cut s = core cut' s := by
  unfold core
  generalize cutHash s = p at h
  obtain ⟨u, frag⟩ := p
  simp only [h]

theorem fullSource_eq_Q {s : Str} (hq : '?' ∉ s) : fullSource s = fullSourceQ s := by
  cases s with
  | nil => rfl
  | cons c0 t =>
    rw [fullSource_cons, fullSourceQ_cons, contains_false.2 hq, Bool.or_false, core_congr (cut' := cutQuery) _
      (cutQuery_of_not_mem fun hm => hq (mem_of_mem_cutHash_fst _ _ hm)).symm]

/-- Only a source that starts like a path gets through `fullSource` with a `?`. -/
theorem fullSourceQ_of_fullSource {s r : Str} (h : fullSource s = some r) :
    fullSourceQ s = some r ∧ (r = s ∨ '?' ∉ s) := by
  by_cases hq : '?' ∈ s
  · cases s with
    | nil => exact absurd hq List.not_mem_nil
    | cons c0 t =>
      by_cases h0 : (c0 == '/' || c0 == '.' || c0 == '\\') = true
      · rw [fullSource_cons, if_pos h0] at h
        rw [fullSourceQ_cons, if_pos h0]
        exact ⟨h, Or.inl (Option.some.inj h).symm⟩
      · rw [fullSource_cons, if_neg h0, List.contains_iff_mem.2 hq, Bool.or_true, if_pos rfl] at h
        cases h
  · exact ⟨fullSource_eq_Q hq ▸ h, Or.inr hq⟩

theorem fullSource_idem_list (s r : Str) (h : fullSource s = some r) : fullSource r = some r := by
  obtain ⟨hQ, hs⟩ := fullSourceQ_of_fullSource h
  rcases fullSourceQ_cases s r hQ with e | ⟨x, y, hx, hy, hp, e⟩
  · rw [e]; rw [e] at h; exact h
  rcases hs with e' | hq
  · rw [e']; rw [e'] at h; exact h
  · have hr : '?' ∉ r := e ▸ not_mem_canon (by decide) (by decide) hx.1.query hy.1.query (by decide)
      fun hm => hq (mem_of_mem_cutHash_snd _ _ hm)
    rw [fullSource_eq_Q hr]
    exact fullSourceQ_idem_list s r hQ

/-- `fullSource_idem_list` under the domain of `Props/C17.lean` as hypothesis; its second half is the condition
    on the components of the ref that `path.Join` imposed before fix 3ced888. The proof needs neither: cite
    `fullSource_idem_list`. -/
theorem idempotent (s r : Str)
    (hd : (∀ c ∈ s, isDomChar c = true) ∧ ((cutHash s).2 = [] ∨
      ∀ comp ∈ splitOn '/' (cutHash s).2, comp ≠ [] ∧ comp ≠ ['.'] ∧ comp ≠ ['.', '.']))
    (h : fullSource s = some r) : fullSource r = some r :=
  fullSource_idem_list s r h

theorem total_on_dom (s : Str) (hd : ∀ c ∈ s, isDomChar c = true) : ∃ r, fullSource s = some r :=
  (fullSource_path_or_core hd).elim (fun h => ⟨s, h⟩) fun h => h ▸ (core_cases id s).imp fun _ h => h.1

theorem canon_dom {x y frag : Str} (hx : ∀ c ∈ x, isDomChar c = true)
    (hy : ∀ c ∈ y, isDomChar c = true) (hf : ∀ c ∈ frag, isDomChar c = true) :
    ∀ c ∈ canon x y frag, isDomChar c = true := by
  rw [canon_eq]
  unfold pre hashTail
  split
  all_goals simp only [List.forall_mem_append, List.forall_mem_cons]
  · exact ⟨⟨⟨name_dom githubCom_name, by decide, hx⟩, by decide, hy, name_dom suffix_name⟩,
      fun _ h => absurd h List.not_mem_nil⟩
  · exact ⟨⟨⟨name_dom githubCom_name, by decide, hx⟩, by decide, hy, name_dom suffix_name⟩, by decide, hf⟩

theorem result_in_dom (s r : Str) (hd : ∀ c ∈ s, isDomChar c = true) (h : fullSource s = some r) :
    (∀ c ∈ r, isDomChar c = true) ∧ (cutHash r).2 = (cutHash s).2 := by
  have hdom : ∀ z : Str, (∀ c ∈ z, c ∈ bkPlugins ∨ c ∈ s) → ∀ c ∈ z, isDomChar c = true := fun z hz c hc =>
    (hz c hc).elim (name_dom bkPlugins_name c) (hd c)
  rcases fullSourceQ_cases s r (fullSourceQ_of_fullSource h).1 with e | ⟨x, y, hx, hy, _, e⟩
  · rw [e]; exact ⟨hd, rfl⟩
  · rw [e, cutHash_canon _ hx.1.hash hy.1.hash]
    exact ⟨canon_dom (hdom x hx.2) (hdom y hy.2) fun c hc => hd c (mem_of_mem_cutHash_snd s c hc), rfl⟩

end GoPipeline.PluginSrc

namespace GoPipeline.Marshal

theorem fullSource_eq (s : String) :
    fullSource s = String.ofList ((PluginSrc.fullSourceQ s.toList).getD s.toList) := by
  unfold fullSource
  cases hF : PluginSrc.fullSource s.toList with
  | some r => rw [(PluginSrc.fullSourceQ_of_fullSource hF).1]; rfl
  | none => cases PluginSrc.fullSourceQ s.toList <;> simp

/-- Canonicalising a plugin source twice is the same as canonicalising it once — for every string
    (finding F17 fixed in 3ced888; before, `path.Join` made this false outside the documented forms). -/
theorem fullSource_idem (s : String) : fullSource (fullSource s) = fullSource s := by
  rw [fullSource_eq (fullSource s), fullSource_eq s, String.toList_ofList]
  cases hQ : PluginSrc.fullSourceQ s.toList with
  | none => rw [Option.getD_none, hQ, Option.getD_none]
  | some r => rw [Option.getD_some, PluginSrc.fullSourceQ_idem_list _ r hQ, Option.getD_some]

end GoPipeline.Marshal
