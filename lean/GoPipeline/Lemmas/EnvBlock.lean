/-
  C10 — the env-block model (`Model/EnvBlock.lean`).  The caller environment is a finite map keyed
  by normalised names.  The in-place walk `blockLoop` is related to the specification `specFold`
  twice: on collision-free blocks it is the specification (`block_is_spec_gen`); in general it is,
  for the caller environment and for errors, the specification on the sublist of entries it visits
  (`blockLoop_env_eq_specFold`).  Facts about the environment are therefore proved on `specFold`.
-/
import GoPipeline.Model.EnvBlock
import GoPipeline.Lemmas.OMap
namespace GoPipeline.EnvBlock

variable {E : Type}

theorem lookup_assocSet (a v b : String) (l : List (String × String)) :
    (assocSet a v l).lookup b = if b = a then some v else l.lookup b := by
  induction l with
  | nil => rw [assocSet, OMap.lookup_cons_ite]
  | cons p r ih =>
    rw [assocSet]
    split
    · rename_i h
      cases eq_of_beq h
      rw [OMap.lookup_cons_ite, OMap.lookup_cons_ite]
      split <;> rfl
    · rename_i h
      rw [OMap.lookup_cons_ite, ih, OMap.lookup_cons_ite]
      by_cases hb : b = a <;> by_cases hk : b = p.1 <;> simp_all

theorem get_set (norm : String → String) (env : Env) (k v n : String) :
    (env.set norm k v).get norm n = if norm n = norm k then some v else env.get norm n := by
  simp [Env.get, Env.set, lookup_assocSet]

theorem get_congr (norm : String → String) (env : Env) {a b : String} (h : norm a = norm b) :
    env.get norm a = env.get norm b := by simp [Env.get, h]

theorem entryStep_ok {expand : Expand E} {norm : String → String} {prefer : Bool} {env env' : Env}
    {k v k' v' : String} (h : entryStep expand norm prefer env k v = .ok (k', v', env')) :
    expand (env.get norm) k = .ok k' ∧ expand (env.get norm) v = .ok v' ∧
      env' = if (prefer && (env.get norm k').isSome) = true then env else env.set norm k' v' := by
  unfold entryStep at h
  cases h1 : expand (env.get norm) k with
  | error e => simp [h1] at h
  | ok a =>
    cases h2 : expand (env.get norm) v with
    | error e => simp [h1, h2] at h
    | ok c =>
      simp only [h1, h2, Except.ok.injEq, Prod.mk.injEq] at h
      obtain ⟨rfl, rfl, rfl⟩ := h
      exact ⟨rfl, rfl, rfl⟩

theorem entryStep_error {expand : Expand E} {norm : String → String} {prefer : Bool} {env : Env}
    {k v : String} {e : E} (h : entryStep expand norm prefer env k v = .error e) :
    expand (env.get norm) k = .error e ∨ expand (env.get norm) v = .error e := by
  unfold entryStep at h
  cases h1 : expand (env.get norm) k with
  | error e' =>
    simp only [h1, Except.error.injEq] at h
    exact Or.inl (by rw [h])
  | ok a =>
    cases h2 : expand (env.get norm) v with
    | error e' =>
      simp only [h1, h2, Except.error.injEq] at h
      exact Or.inr (by rw [h])
    | ok c => simp [h1, h2] at h

theorem step_get_of_ne {expand : Expand E} {norm : String → String} {prefer : Bool} {env env' : Env}
    {k v k' v' : String} (h : entryStep expand norm prefer env k v = .ok (k', v', env'))
    {name : String} (hn : norm k' ≠ norm name) : env'.get norm name = env.get norm name := by
  obtain ⟨_, _, he⟩ := entryStep_ok h
  subst he
  split
  · rfl
  · rw [get_set, if_neg (fun e => hn e.symm)]

theorem step_get_self {expand : Expand E} {norm : String → String} {prefer : Bool} {env env' : Env}
    {k v k' v' : String} (h : entryStep expand norm prefer env k v = .ok (k', v', env')) :
    env'.get norm k' =
      if (prefer && (env.get norm k').isSome) = true then env.get norm k' else some v' := by
  obtain ⟨_, _, he⟩ := entryStep_ok h
  subst he
  by_cases hc : (prefer && (env.get norm k').isSome) = true <;> simp [hc, get_set]

theorem step_get_prefer {expand : Expand E} {norm : String → String} {env env' : Env}
    {k v k' v' : String} (h : entryStep expand norm true env k v = .ok (k', v', env'))
    {name : String} (hp : (env.get norm name).isSome) : env'.get norm name = env.get norm name := by
  obtain ⟨_, _, he⟩ := entryStep_ok h
  subst he
  by_cases hk : (env.get norm k').isSome = true
  · simp [hk]
  · by_cases hn : norm name = norm k'
    · rw [get_congr norm env hn] at hp
      exact absurd hp hk
    · simp [hk, get_set, hn]

theorem specFold_cons_ok {expand : Expand E} {norm : String → String} {prefer : Bool} {env envF : Env}
    {k v : String} {rest out : List (String × String)}
    (h : specFold expand norm prefer env ((k, v) :: rest) = .ok (out, envF)) :
    ∃ k' v' env' out', entryStep expand norm prefer env k v = .ok (k', v', env') ∧
      specFold expand norm prefer env' rest = .ok (out', envF) ∧ out = (k', v') :: out' := by
  unfold specFold at h
  cases hs : entryStep expand norm prefer env k v with
  | error e => simp [hs] at h
  | ok r =>
    obtain ⟨k', v', env'⟩ := r
    cases hr : specFold expand norm prefer env' rest with
    | error e => simp [hs, hr] at h
    | ok q =>
      obtain ⟨out', envF'⟩ := q
      simp only [hs, hr, Except.ok.injEq, Prod.mk.injEq] at h
      obtain ⟨rfl, rfl⟩ := h
      exact ⟨k', v', env', out', rfl, hr, rfl⟩

theorem specFold_nil_ok {expand : Expand E} {norm : String → String} {prefer : Bool} {env envF : Env}
    {out : List (String × String)} (h : specFold expand norm prefer env [] = .ok (out, envF)) :
    out = [] ∧ envF = env := by
  simp only [specFold, Except.ok.injEq, Prod.mk.injEq] at h
  exact ⟨h.1.symm, h.2.symm⟩

theorem specFold_length {expand : Expand E} {norm : String → String} {prefer : Bool} {env envF : Env}
    {b out : List (String × String)} (h : specFold expand norm prefer env b = .ok (out, envF)) :
    out.length = b.length := by
  induction b generalizing env out with
  | nil => simp [(specFold_nil_ok h).1]
  | cons p rest ih =>
    obtain ⟨k, v⟩ := p
    obtain ⟨k', v', env', out', _, hr, rfl⟩ := specFold_cons_ok h
    simp [ih hr]

theorem noCollide_cons {k k' : String} {ks ks' : List String} (h : NoCollide (k :: ks) (k' :: ks')) :
    NoCollide ks ks' ∧ (k' = k ∨ k' ∉ ks) ∧ k' ∉ ks' := by
  obtain ⟨hnd, hi⟩ := h
  rw [List.nodup_cons] at hnd
  refine ⟨⟨hnd.2, ?_⟩, ?_, hnd.1⟩
  · intro i h1 h2
    have := hi (i + 1) (by simpa using h1) (by simpa using h2)
    simp only [List.getElem_cons_succ, List.mem_cons, not_or] at this
    rcases this with e | ⟨_, e⟩
    · exact Or.inl e
    · exact Or.inr e
  · have := hi 0 (by simp) (by simp)
    simp only [List.getElem_cons_zero, List.mem_cons, not_or] at this
    rcases this with e | ⟨_, e⟩
    · exact Or.inl e
    · exact Or.inr e

theorem dropKey_of_not_mem {k : String} {l : List (String × String)} (h : k ∉ l.map (·.1)) :
    dropKey k l = l := by
  unfold dropKey
  rw [List.filter_eq_self]
  intro p hp
  have : p.1 ≠ k := fun e => h (e ▸ List.mem_map_of_mem hp)
  simpa using this

/-- Started anywhere (`done`, `dead`) the walk appends the specification's output to `done`, provided
    no entry still to come is dead and no name still to be produced is in `done`: under `NoCollide`
    these two conditions persist, so the walk never skips an entry and `dropKey` never removes
    one. -/
theorem block_is_spec_gen (expand : Expand E) (norm : String → String) (prefer : Bool) :
    ∀ (b done : List (String × String)) (dead : List String) (env envF : Env)
      (out : List (String × String)),
      specFold expand norm prefer env b = .ok (out, envF) →
      NoCollide (b.map (·.1)) (out.map (·.1)) →
      (∀ d ∈ dead, d ∉ b.map (·.1)) →
      (∀ x ∈ out.map (·.1), x ∉ done.map (·.1)) →
      blockLoop expand norm prefer done dead env b = .ok (done ++ out, envF) := by
  intro b
  induction b with
  | nil =>
    intro done dead env envF out h _ _ _
    obtain ⟨rfl, rfl⟩ := specFold_nil_ok h
    simp [blockLoop]
  | cons p rest ih =>
    intro done dead env envF out h hc hdead hdone
    obtain ⟨k, v⟩ := p
    obtain ⟨k', v', env', out', hs, hr, rfl⟩ := specFold_cons_ok h
    simp only [List.map_cons] at hc hdead hdone
    obtain ⟨hc', hk, hk'⟩ := noCollide_cons hc
    have hdk : dead.contains k = false := by
      cases hd : dead.contains k with
      | false => rfl
      | true =>
        exact absurd (List.mem_cons_self) (hdead k (by simpa using hd))
    have hk'done : k' ∉ done.map (·.1) := hdone k' List.mem_cons_self
    have hdone' : ∀ x ∈ out'.map (·.1), x ∉ (done ++ [(k', v')]).map (·.1) := by
      intro x hx hx'
      simp only [List.map_append, List.map_cons, List.map_nil, List.mem_append, List.mem_singleton]
        at hx'
      rcases hx' with hx' | rfl
      · exact hdone x (List.mem_cons_of_mem _ hx) hx'
      · exact hk' hx
    have hdead' : ∀ d ∈ dead, d ∉ rest.map (·.1) :=
      fun d hd hm => hdead d hd (List.mem_cons_of_mem _ hm)
    by_cases hkk : k' = k
    · subst hkk
      simp only [blockLoop, hdk, hs, beq_self_eq_true, if_true, Bool.false_eq_true, if_false]
      rw [ih (done ++ [(k', v')]) dead env' envF out' hr hc' hdead' hdone']
      simp
    · have hkk' : (k' == k) = false := by simpa using hkk
      have hkrest : k' ∉ rest.map (·.1) := by
        rcases hk with e | e
        · exact absurd e hkk
        · exact e
      simp only [blockLoop, hdk, hs, hkk', Bool.false_eq_true, if_false]
      rw [dropKey_of_not_mem hk'done]
      rw [ih (done ++ [(k', v')]) (k' :: dead) env' envF out' hr hc' ?_ hdone']
      · simp
      · intro d hd
        rcases List.mem_cons.1 hd with rfl | hd
        · exact hkrest
        · exact hdead' d hd

/-- Renames may delete entries ahead of the cursor, but on the entries the walk does visit it
    threads the caller environment, and fails, exactly as the specification does. -/
theorem blockLoop_env_eq_specFold (expand : Expand E) (norm : String → String) (prefer : Bool) :
    ∀ (b done : List (String × String)) (dead : List String) (env : Env),
      ∃ b', b'.Sublist b ∧ (blockLoop expand norm prefer done dead env b).map (·.2) =
        (specFold expand norm prefer env b').map (·.2) := by
  intro b
  induction b with
  | nil => exact fun _ _ _ => ⟨[], .slnil, rfl⟩
  | cons q rest ih =>
    intro done dead env
    obtain ⟨k, v⟩ := q
    rw [blockLoop]
    split
    · obtain ⟨b', hsub, e⟩ := ih done dead env
      exact ⟨b', hsub.cons _, e⟩
    · cases hs : entryStep expand norm prefer env k v with
      | error e => exact ⟨[(k, v)], (List.nil_sublist _).cons_cons _, by rw [specFold, hs]⟩
      | ok r =>
        obtain ⟨k', v', env'⟩ := r
        have key : ∀ done dead, ∃ b', b'.Sublist ((k, v) :: rest) ∧
            (blockLoop expand norm prefer done dead env' rest).map (·.2) =
              (specFold expand norm prefer env b').map (·.2) := by
          intro done dead
          obtain ⟨b', hsub, e⟩ := ih done dead env'
          refine ⟨(k, v) :: b', hsub.cons_cons _, ?_⟩
          rw [e, specFold, hs]
          dsimp only
          cases specFold expand norm prefer env' b' <;> rfl
        dsimp only
        split <;> exact key _ _

theorem specFold_error {expand : Expand E} {norm : String → String} {prefer : Bool} {env : Env}
    {b : List (String × String)} {e : E} (h : specFold expand norm prefer env b = .error e) :
    ∃ kv ∈ b, ∃ env' : Env,
      (expand (env'.get norm) kv.1 = .error e ∨ expand (env'.get norm) kv.2 = .error e) := by
  induction b generalizing env with
  | nil => cases h
  | cons q rest ih =>
    obtain ⟨k, v⟩ := q
    rw [specFold] at h
    cases hs : entryStep expand norm prefer env k v with
    | error e' =>
      rw [hs] at h
      cases h
      exact ⟨(k, v), List.mem_cons_self, env, entryStep_error hs⟩
    | ok r =>
      rw [hs] at h
      cases hr : specFold expand norm prefer r.2.2 rest with
      | error e' =>
        simp only [hr] at h
        cases h
        obtain ⟨kv, hm, w⟩ := ih hr
        exact ⟨kv, List.mem_cons_of_mem _ hm, w⟩
      | ok q => simp only [hr] at h; cases h

theorem precedence_during (expand : Expand E) (norm : String → String) (env : Env)
    (b : List (String × String)) (name : String) (hp : (env.get norm name).isSome) :
    ∀ env' ∈ specEnvs expand norm true env b, env'.get norm name = env.get norm name := by
  induction b generalizing env with
  | nil => intro env' h; simp [specEnvs] at h
  | cons p rest ih =>
    obtain ⟨k, v⟩ := p
    intro env' h
    unfold specEnvs at h
    rcases List.mem_cons.1 h with rfl | h
    · rfl
    · cases hs : entryStep expand norm true env k v with
      | error e => simp [hs] at h
      | ok r =>
        obtain ⟨k', v', env1⟩ := r
        simp only [hs] at h
        have h1 := step_get_prefer hs hp
        rw [ih env1 (by rw [h1]; exact hp) env' h, h1]

theorem precedence_after (expand : Expand E) (norm : String → String) (env envF : Env)
    (b out : List (String × String)) (h : specFold expand norm true env b = .ok (out, envF))
    (name : String) (hp : (env.get norm name).isSome) :
    envF.get norm name = env.get norm name := by
  induction b generalizing env out with
  | nil => rw [(specFold_nil_ok h).2]
  | cons p rest ih =>
    obtain ⟨k, v⟩ := p
    obtain ⟨k', v', env', out', hs, hr, rfl⟩ := specFold_cons_ok h
    have h1 := step_get_prefer hs hp
    rw [ih env' out' hr (by rw [h1]; exact hp), h1]

theorem untouched_names (expand : Expand E) (norm : String → String) (prefer : Bool) (env envF : Env)
    (b out : List (String × String)) (h : specFold expand norm prefer env b = .ok (out, envF))
    (name : String) (hn : ∀ p ∈ out, norm p.1 ≠ norm name) :
    envF.get norm name = env.get norm name := by
  induction b generalizing env out with
  | nil => rw [(specFold_nil_ok h).2]
  | cons p rest ih =>
    obtain ⟨k, v⟩ := p
    obtain ⟨k', v', env', out', hs, hr, rfl⟩ := specFold_cons_ok h
    rw [ih env' out' hr (fun p hp => hn p (List.mem_cons_of_mem _ hp)),
      step_get_of_ne hs (hn (k', v') List.mem_cons_self)]

theorem writeback (expand : Expand E) (norm : String → String) (prefer : Bool) (env envF : Env)
    (b out : List (String × String)) (h : specFold expand norm prefer env b = .ok (out, envF))
    (hd : (out.map (fun p => norm p.1)).Nodup) :
    ∀ p ∈ out, envF.get norm p.1 =
      if (prefer && (env.get norm p.1).isSome) = true then env.get norm p.1 else some p.2 := by
  induction b generalizing env out with
  | nil => intro p hp; simp [(specFold_nil_ok h).1] at hp
  | cons q rest ih =>
    obtain ⟨k, v⟩ := q
    obtain ⟨k', v', env', out', hs, hr, rfl⟩ := specFold_cons_ok h
    simp only [List.map_cons, List.nodup_cons, List.mem_map, not_exists, not_and] at hd
    intro p hp
    rcases List.mem_cons.1 hp with rfl | hp
    · rw [untouched_names expand norm prefer env' envF rest out' hr _ (fun q hq => hd.1 q hq)]
      exact step_get_self hs
    · rw [ih env' out' hr hd.2 p hp, step_get_of_ne hs (fun e => hd.1 p hp e.symm)]

end GoPipeline.EnvBlock
