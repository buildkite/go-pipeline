/-
  C04 with collisions.  `GoPipeline.Interp`: the ordered-map walk of `Model/Interp.lean` IS the abstract
  in-iteration `Replace` walk `OMap.aRangeReplace` that C05 proves the concrete map refines; what the Go-map
  walk stores when renamed keys collide; the forms without hypothesis on the values (`walkVal`).
  `GoPipeline.EnvBlock`: the env-block walker of C10 is that abstract walk with the caller environment
  threaded through the callback (`aRangeReplaceS`).
-/
import GoPipeline.Lemmas.Interp
import GoPipeline.Lemmas.OMap
import GoPipeline.Lemmas.EnvBlock
import GoPipeline.Lemmas.Assoc
namespace GoPipeline.Interp
open GoPipeline GoPipeline.Pipe

variable {E : Type}

/-! ## `interpOMap` is `aRangeReplace` -/

/-- The callback `interpolateOrderedMap` hands to `Range`: new key, interpolated value. -/
def omapCb (tf : String → Except E String) (k : String) (v : Val) : Except E (String × Val) :=
  match tf k with
  | .error e => .error e
  | .ok k' =>
    match interpVal tf v with
    | .error e => .error e
    | .ok v' => .ok (k', v')

/-- Entries of the part not yet visited that no earlier rename has removed. -/
def liveRest {α : Type} (dead : List String) (rest : List (String × α)) : List (String × α) :=
  rest.filter (fun p => !dead.contains p.1)

theorem liveRest_cons_dead {α : Type} {dead : List String} {k : String} (v : α) (rest : List (String × α))
    (h : dead.contains k = true) : liveRest dead ((k, v) :: rest) = liveRest dead rest := by
  unfold liveRest
  rw [List.filter_cons_of_neg (by simpa using h)]

theorem liveRest_cons_live {α : Type} {dead : List String} {k : String} (v : α) (rest : List (String × α))
    (h : dead.contains k = false) : liveRest dead ((k, v) :: rest) = (k, v) :: liveRest dead rest := by
  unfold liveRest
  rw [List.filter_cons_of_pos (by simpa using h)]

theorem liveRest_nil {α : Type} (rest : List (String × α)) : liveRest [] rest = rest :=
  List.filter_eq_self.2 fun _ _ => rfl

theorem adelete_liveRest {α : Type} (dead : List String) (k' : String) (rest : List (String × α)) :
    OMap.adelete (liveRest dead rest) k' = liveRest (k' :: dead) rest := by
  unfold OMap.adelete liveRest
  rw [List.filter_filter]
  apply List.filter_congr
  intro p _
  by_cases h : p.1 = k' <;> simp [h]

theorem interpOMap_is_rangeReplace_gen (tf : String → Except E String) (rest : List (String × Val)) :
    ∀ (done : List (String × Val)) (dead : List String),
      interpOMap tf done dead rest = OMap.aRangeReplace (omapCb tf) done (liveRest dead rest) := by
  induction rest with
  | nil => intro done dead; rw [interpOMap, liveRest, List.filter_nil, OMap.aRangeReplace]
  | cons p rest ih =>
    intro done dead
    obtain ⟨k, v⟩ := p
    rw [interpOMap]
    cases hd : dead.contains k with
    | true => rw [if_pos rfl, liveRest_cons_dead v rest hd, ih]
    | false =>
      rw [if_neg Bool.false_ne_true, liveRest_cons_live v rest hd, OMap.aRangeReplace, omapCb]
      cases tf k with
      | error => rfl
      | ok k' =>
        cases interpVal tf v with
        | error => rfl
        | ok v' => simp only [ih, adelete_liveRest]; rfl

theorem interpOMap_is_rangeReplace (tf : String → Except E String) (kvs : List (String × Val)) :
    interpOMap tf [] [] kvs = OMap.aRangeReplace (omapCb tf) [] kvs := by
  rw [interpOMap_is_rangeReplace_gen, liveRest_nil]

/-! ## The Go-map walk with collisions: later-wins insertion into a sorted store -/

section Store
variable {α : Type}

theorem sortedK_umapFold (l acc : List (String × α)) (h : Parse.SortedK acc) : Parse.SortedK (umapFold acc l) := by
  simp only [umapFold, umapInsert_eq_parse]
  exact Parse.sortedK_foldl l acc h

theorem mem_umapFold {q : String × α} : (l acc : List (String × α)) → q ∈ umapFold acc l → q ∈ l ∨ q ∈ acc
  | [], _, h => .inr h
  | p :: r, acc, h => by
    rw [umapFold, List.foldl_cons] at h
    rcases mem_umapFold r _ h with h | h
    · exact .inl (List.mem_cons_of_mem _ h)
    · rcases Parse.mem_umapInsert (umapInsert_eq_parse .. ▸ h) with h | h
      · exact .inl (h ▸ List.mem_cons_self)
      · exact .inr h

/-- Later wins: a key reads back the last entry stored under it (else what the store had). -/
theorem lookup_umapFold (k' : String) : (l acc : List (String × α)) →
    (umapFold acc l).lookup k' =
      match l.reverse.find? (fun p => p.1 == k') with
      | some p => some p.2
      | none => acc.lookup k'
  | [], _ => by simp [umapFold]
  | (k, v) :: r, acc => by
    rw [umapFold, List.foldl_cons]
    have ih := lookup_umapFold k' r (umapInsert k v acc)
    rw [umapFold] at ih
    rw [ih, List.reverse_cons, List.find?_append]
    cases hr : r.reverse.find? (fun p => p.1 == k') with
    | some p => simp
    | none =>
      simp only [Option.none_or, umapInsert_eq_parse, Parse.lookup_umapInsert]
      by_cases h : k' = k
      · subst h; simp
      · have h' : (k == k') = false := by simpa using fun e : k = k' => h e.symm
        simp [h, h']

end Store

/-- The result of the Go-map walk reads back, under each new key, the image of the last input entry
    mapped to it. -/
theorem lookup_umapFold_img (g : String → String) (w : Val → Val) (k' : String) (kvs : List (String × Val)) :
    (umapFold [] (kvs.map (fun p => (g p.1, w p.2)))).lookup k' =
      (kvs.reverse.find? (fun p => g p.1 == k')).map (fun p => w p.2) := by
  rw [lookup_umapFold, ← List.map_reverse, List.find?_map]
  cases h : kvs.reverse.find? (fun p => g p.1 == k') with
  | none =>
    have : List.find? ((fun p : String × Val => p.1 == k') ∘ fun p => (g p.1, w p.2)) kvs.reverse = none := h
    simp [this]
  | some q =>
    have : List.find? ((fun p : String × Val => p.1 == k') ∘ fun p => (g p.1, w p.2)) kvs.reverse = some q := h
    simp [this]

/-! ## Hypothesis-free forms: `walkVal` is whatever the walk makes of a value -/

theorem interpVal_pure_total (g : String → String) (v : Val) : ∃ v', interpVal (pureTf E g) v = .ok v' :=
  (interpVal_errFrom (pureTf E g) v).ok_of_forall fun x _ => ⟨g x, rfl⟩

/-- The value the walk produces from `v` (it always produces one: `interpVal_walkVal`). -/
def walkVal (E : Type) (g : String → String) (v : Val) : Val :=
  match interpVal (pureTf E g) v with
  | .ok v' => v'
  | .error _ => v

theorem interpVal_walkVal (g : String → String) (v : Val) :
    interpVal (pureTf E g) v = .ok (walkVal E g v) := by
  obtain ⟨v', hv⟩ := interpVal_pure_total (E := E) g v
  simp [walkVal, hv]

theorem walkVal_eq_mapVal (g : String → String) (v : Val) (h : NoCollideVal' g v) :
    walkVal E g v = mapVal g v := by
  simp [walkVal, interpVal_eq g v h]

/-- Result keys of the ordered walk: the images of the surviving keys (no hypothesis on values). -/
theorem interpOMap_keys (g : String → String) (kvs r : List (String × Val)) (hnd : (kvs.map (·.1)).Nodup)
    (h : interpOMap (pureTf E g) [] [] kvs = .ok r) :
    r.map (·.1) = (survivors g kvs).map (fun p => g p.1) := by
  rw [interpOMap_walk g (walkVal E g) kvs (fun p _ => interpVal_walkVal g p.2) hnd] at h
  injection h with h
  subst h
  simp

theorem interpUMap_sorted (g : String → String) (kvs r : List (String × Val))
    (h : interpUMap (pureTf E g) [] kvs = .ok r) : Parse.SortedK r := by
  rw [interpUMap_walk g (walkVal E g) kvs [] (fun p _ => interpVal_walkVal g p.2)] at h
  injection h with h
  subst h
  exact sortedK_umapFold _ [] List.Pairwise.nil

/-! ## The ordered walk on colliding keys, nested mappings collision-free -/

theorem orderedWalk_eq (g : String → String) (kvs : List (String × Val)) (hnd : (kvs.map (·.1)).Nodup)
    (hv : NoCollideKVs' g kvs) :
    interpOMap (pureTf E g) [] [] kvs = .ok ((survivors g kvs).map (fun p => (g p.1, mapVal g p.2))) :=
  interpOMap_walk g (mapVal g) kvs (interpVal_of_noCollideKVs' g kvs hv) hnd

end GoPipeline.Interp

/-! ## The env-block walker (`Model/EnvBlock.lean`)

  The callback of `interpolateEnvBlock` reads and writes the caller environment, so it is not a
  `String → V → Except E (String × V)`: which environment an entry is expanded with depends on which
  entries were visited before it.  `aRangeReplaceS` is `OMap.aRangeReplace` with a state threaded
  through the callback (same `done` / `todo` bookkeeping, same `adelete`s); `blockLoop` is that walk,
  and whenever the renaming part of the callback does not depend on the state the block component
  is `OMap.aRangeReplace` itself. -/
namespace GoPipeline.EnvBlock
open GoPipeline.OMap (AMap adelete aRangeReplace)

variable {E S V : Type}

def aRangeReplaceS (f : S → String → V → Except E (String × V × S)) :
    S → AMap V → AMap V → Except E (AMap V × S)
  | s, done, [] => .ok (done, s)
  | s, done, (k, v) :: rest =>
    match f s k v with
    | .error e => .error e
    | .ok (k', v', s') =>
      if k' == k then aRangeReplaceS f s' (done ++ [(k', v')]) rest
      else aRangeReplaceS f s' (adelete done k' ++ [(k', v')]) (adelete rest k')
termination_by _ _ todo => todo.length
decreasing_by
  all_goals simp_wf
  · have := List.length_filter_le (fun (p : String × V) => p.1 != k') rest
    unfold adelete
    omega

theorem aRangeReplaceS_nil (f : S → String → V → Except E (String × V × S)) (s : S) (done : AMap V) :
    aRangeReplaceS f s done [] = .ok (done, s) := by
  rw [aRangeReplaceS]

theorem aRangeReplaceS_cons_error {f : S → String → V → Except E (String × V × S)} {s : S} {k : String}
    {v : V} {e : E} (hf : f s k v = .error e) (done rest : AMap V) :
    aRangeReplaceS f s done ((k, v) :: rest) = .error e := by
  rw [aRangeReplaceS]; simp [hf]

theorem aRangeReplaceS_cons_same {f : S → String → V → Except E (String × V × S)} {s s' : S} {k : String}
    {v v' : V} (hf : f s k v = .ok (k, v', s')) (done rest : AMap V) :
    aRangeReplaceS f s done ((k, v) :: rest) = aRangeReplaceS f s' (done ++ [(k, v')]) rest := by
  rw [aRangeReplaceS]; simp [hf]

theorem aRangeReplaceS_cons_ne {f : S → String → V → Except E (String × V × S)} {s s' : S} {k k' : String}
    {v v' : V} (hf : f s k v = .ok (k', v', s')) (hne : k' ≠ k) (done rest : AMap V) :
    aRangeReplaceS f s done ((k, v) :: rest) =
      aRangeReplaceS f s' (adelete done k' ++ [(k', v')]) (adelete rest k') := by
  rw [aRangeReplaceS]; simp [hf, hne]

/-- The env-block walk is the state-threading abstract walk. -/
theorem blockLoop_is_rangeReplaceS_gen (expand : Expand E) (norm : String → String) (prefer : Bool)
    (rest : List (String × String)) : ∀ (done : List (String × String)) (dead : List String) (env : Env),
      blockLoop expand norm prefer done dead env rest =
        aRangeReplaceS (entryStep expand norm prefer) env done (Interp.liveRest dead rest) := by
  induction rest with
  | nil => intro done dead env; rw [blockLoop, Interp.liveRest, List.filter_nil, aRangeReplaceS]
  | cons p rest ih =>
    intro done dead env
    obtain ⟨k, v⟩ := p
    rw [blockLoop]
    cases hd : dead.contains k with
    | true => rw [if_pos rfl, Interp.liveRest_cons_dead v rest hd, ih]
    | false =>
      rw [if_neg Bool.false_ne_true, Interp.liveRest_cons_live v rest hd, aRangeReplaceS]
      cases entryStep expand norm prefer env k v with
      | error => rfl
      | ok r => simp only [ih, Interp.adelete_liveRest]; rfl

theorem blockLoop_is_rangeReplaceS (expand : Expand E) (norm : String → String) (prefer : Bool) (env : Env)
    (b : List (String × String)) :
    blockLoop expand norm prefer [] [] env b = aRangeReplaceS (entryStep expand norm prefer) env [] b := by
  rw [blockLoop_is_rangeReplaceS_gen, Interp.liveRest_nil]

/-- If the renaming part of the callback does not depend on the state, the entries component of the
    state-threading walk is `OMap.aRangeReplace`. -/
theorem aRangeReplaceS_entries (f : S → String → V → Except E (String × V × S))
    (f₀ : String → V → Except E (String × V))
    (hf : ∀ s k v, (f s k v).map (fun r => (r.1, r.2.1)) = f₀ k v) (s : S) (done todo : AMap V) :
    (aRangeReplaceS f s done todo).map (·.1) = aRangeReplace f₀ done todo := by
  fun_induction aRangeReplaceS f s done todo with
  | case1 s done => rw [OMap.aRangeReplace_nil]; rfl
  | case2 s done k v rest e hs =>
    rw [OMap.aRangeReplace_cons_error ((hf s k v).symm.trans (by rw [hs]; rfl))]; rfl
  | case3 s done k v rest k' v' s' hs hkk ih =>
    have hkk : k' = k := by simpa using hkk
    subst hkk
    rw [OMap.aRangeReplace_cons_same ((hf s k' v).symm.trans (by rw [hs]; rfl))]; exact ih
  | case4 s done k v rest k' v' s' hs hkk ih =>
    have hkk : k' ≠ k := by simpa using hkk
    rw [OMap.aRangeReplace_cons_ne ((hf s k v).symm.trans (by rw [hs]; rfl)) hkk]; exact ih

/-- When the expansion does not consult the environment, the renamed block is `OMap.aRangeReplace`
    of the stateless callback (the write-back still happens, in the other component). -/
theorem blockLoop_entries_of_env_free (expand : Expand E) (norm : String → String) (prefer : Bool)
    (hfree : ∀ get get' s, expand get s = expand get' s) (env : Env) (b : List (String × String)) :
    (blockLoop expand norm prefer [] [] env b).map (·.1) =
      aRangeReplace (fun k v =>
        match expand (fun _ => none) k with
        | .error e => .error e
        | .ok k' =>
          match expand (fun _ => none) v with
          | .error e => .error e
          | .ok v' => .ok (k', v')) [] b := by
  rw [blockLoop_is_rangeReplaceS]
  apply aRangeReplaceS_entries
  intro s k v
  unfold entryStep
  rw [hfree (s.get norm) (fun _ => none) k, hfree (s.get norm) (fun _ => none) v]
  cases expand (fun _ => none) k with
  | error e => rfl
  | ok k' =>
    cases expand (fun _ => none) v with
    | error e => rfl
    | ok v' => rfl

/-- `OMap.aRangeReplace` only consults the callback on the entries it is given. -/
theorem aRangeReplace_congr (f f' : String → V → Except E (String × V)) (done todo : AMap V)
    (hag : ∀ p ∈ todo, f p.1 p.2 = f' p.1 p.2) : aRangeReplace f done todo = aRangeReplace f' done todo := by
  fun_induction aRangeReplace f done todo with
  | case1 done => rw [OMap.aRangeReplace_nil]
  | case2 done k v rest e hs =>
    rw [OMap.aRangeReplace_cons_error ((hag (k, v) List.mem_cons_self).symm.trans hs)]
  | case3 done k v rest k' v' hs hkk ih =>
    have hkk : k' = k := by simpa using hkk
    subst hkk
    rw [OMap.aRangeReplace_cons_same ((hag (k', v) List.mem_cons_self).symm.trans hs)]
    exact ih fun p hp => hag p (List.mem_cons_of_mem _ hp)
  | case4 done k v rest k' v' hs hkk ih =>
    have hkk : k' ≠ k := by simpa using hkk
    rw [OMap.aRangeReplace_cons_ne ((hag (k, v) List.mem_cons_self).symm.trans hs) hkk]
    exact ih fun p hp => hag p (List.mem_cons_of_mem _ (List.mem_filter.1 hp).1)

/-- Over entries with pairwise distinct keys every key is handed to the callback at most once, so the
    state-threading walk is `OMap.aRangeReplace` of the *pure* callback "`f` in the state `σ k` that
    prevails when `k` is reached" — the form the C05 refinement (`C05_rangeReplace`) applies to. -/
theorem aRangeReplaceS_as_pure (f : S → String → V → Except E (String × V × S)) (s : S) (done todo : AMap V)
    (hnd : (todo.map (·.1)).Nodup) :
    ∃ σ : String → S, (∀ p, todo.head? = some p → σ p.1 = s) ∧
      (aRangeReplaceS f s done todo).map (·.1) =
        aRangeReplace (fun k v => (f (σ k) k v).map (fun r => (r.1, r.2.1))) done todo := by
  fun_induction aRangeReplaceS f s done todo with
  | case1 s done => exact ⟨fun _ => s, nofun, by rw [OMap.aRangeReplace_nil]; rfl⟩
  | case2 s done k v rest e hs =>
    exact ⟨fun _ => s, fun _ _ => rfl, by rw [OMap.aRangeReplace_cons_error (by rw [hs]; rfl)]; rfl⟩
  | case3 s done k v rest k' v' s' hs hkk ih =>
    have hkk : k' = k := by simpa using hkk
    subst hkk
    rw [List.map_cons, List.nodup_cons] at hnd
    obtain ⟨σ', _, hσ'⟩ := ih hnd.2
    refine ⟨fun x => if x = k' then s else σ' x, fun _ h => by cases h; exact if_pos rfl, ?_⟩
    rw [OMap.aRangeReplace_cons_same (by simp only [↓reduceIte, hs]; rfl), hσ']
    exact aRangeReplace_congr _ _ _ _ fun p hp => by
      simp only [show p.1 ≠ k' from fun e => hnd.1 (List.mem_map.2 ⟨p, hp, e⟩), if_false]
  | case4 s done k v rest k' v' s' hs hkk ih =>
    have hkk : k' ≠ k := by simpa using hkk
    rw [List.map_cons, List.nodup_cons] at hnd
    have hsub : (adelete rest k').Sublist rest := List.filter_sublist
    obtain ⟨σ', _, hσ'⟩ := ih ((hsub.map _).nodup hnd.2)
    refine ⟨fun x => if x = k then s else σ' x, fun _ h => by cases h; exact if_pos rfl, ?_⟩
    rw [OMap.aRangeReplace_cons_ne (by simp only [↓reduceIte, hs]; rfl) hkk, hσ']
    exact aRangeReplace_congr _ _ _ _ fun p hp => by
      simp only [show p.1 ≠ k from fun e => hnd.1 (List.mem_map.2 ⟨p, hsub.subset hp, e⟩), if_false]
end GoPipeline.EnvBlock
