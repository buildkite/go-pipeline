/-
  C02 on structurally well-formed steps, YAML leg: the signed round trip through `yaml.Marshal` does not need the
  step to be in the image of the parser.

  `yamlLeg`: `yaml.Marshal` with `StableStepY` provides what the inductions over a `Leg` (`Lemmas/StepOK.lean`) ask
  of a marshaller.  The struct encoding of a group step succeeds because the group's unknown fields are `RemOK`,
  hence no `inlineConflict`, and gives the value `inlineFriendly (grpOutline …) rem` both legs produce.

  Where the legs differ (header of `Model/MarshalY.lean`) and why no extra hypothesis is needed:
    * `inlineConflict`: excluded by `RemOK.prim` at every struct level (`CommandOK`, `StepOK` of a group);
    * a trigger step without contents (`{}` instead of `null`): `StepOK (.trigger c)` asks the contents to SELECT
      the trigger kind, so they are not empty; non-empty contents are written as the same Go map on both legs;
    * an empty input step is an encoding error on both legs, and excluded by `StepOK` the same way;
    * nil step lists (`[]` instead of `null`): a group with `steps := none` is excluded by `StepOK`, and
      `signStep` always returns `some _` for a `some _`;
    * wait / input scalars: the same string on both legs.
  So the YAML-leg statements carry exactly the hypotheses of the JSON-leg ones, with `StableStepY` (weaker than
  `StableStep`: no `emptyishSkip` condition, finding F11) in place of `StableStep`.
-/
import GoPipeline.Lemmas.StepOK
import GoPipeline.Lemmas.SignedRoundtripY
namespace GoPipeline.SignedRT
open GoPipeline GoPipeline.Pipe GoPipeline.Parse GoPipeline.Marshal GoPipeline.Signing GoPipeline.Roundtrip
  GoPipeline.Unm GoPipeline.MarshalY

section TreesOKY
variable (S : SigScheme) (render : S.Sig → String) (parseSig : String → Option S.Sig)
variable (k : S.Key) (alg repo : String) (penv env₁ : List (String × String))

/-- `yaml.Marshal` with its (weaker) side condition. -/
def yamlLeg : Leg YErr where
  enc := yStep
  encL := ySteps
  Stab := StableStepY
  StabL := StableStepsY
  StabC := StableCommandY
  encL_nil := rfl
  encL_cons hj hjs := by rw [ySteps_cons, hj, hjs]
  stabL_cons h := by rwa [StableStepsY] at h
  stab_command h := by rwa [StableStepY] at h
  stab_group h := by simp only [StableStepY] at h; exact ⟨h.1, h.2.2.2⟩
  enc_group hR h := yStep_group_eq _ _ _ _ _ hR h
  enc_plain {s j} hok ht h := by
    cases s with
    | command c | group k g ss r | unknown v => exact ht.elim
    | wait sc c => cases h; rfl
    | input sc c =>
      rw [mStep_input] at h
      rw [yStep_input]
      split at h
      · cases h; rw [if_pos ‹_›]
      · split at h
        · cases h
        · cases h; rw [if_neg ‹_›, if_neg ‹_›]
    | trigger c =>
      -- contents that select the trigger kind are not empty: the `{}` / `null` difference of the legs is not reached
      rw [StepOK] at hok
      obtain ⟨kvs, rfl, _⟩ := lenUMap_ne_of_selOf hok
      cases h
      rfl
  enc_unknown _ := rfl
  command c hok hs :=
    let ⟨j, U, c', hj, h⟩ := command_roundtripY c hok hs
    ⟨j, U, c', hj, h⟩
  encP := yPipeline
  envBack := normList
  envBack_norm := normList_idem
  encP_eq hl h hR :=
    (yPipeline_eq _ _ _ hl h).trans (yStruct_ok_of_keys hR (pipeOutline_keys _ _) (by decide +kernel))

theorem signed_core_yaml (hrender : ∀ s, parseSig (render s) = some s) (henv : EnvExtends penv env₁) :
    SignedCore S render parseSig k alg repo penv env₁ yamlLeg := fun c hok hs =>
  let ⟨j, U, c', hj, hU, hp, _, h⟩ := signed_command_coreY S render parseSig hrender c hok hs k alg repo penv env₁ henv
  ⟨j, U, c', hj, hU, hp, h⟩

theorem signed_steps_roundtripY_ok (hrender : ∀ s, parseSig (render s) = some s)
    (s : Step) (hok : StepOK s) (hs : StableStepY s) (f : Nat) (hf : stepDepth s ≤ f)
    (henv : EnvExtends penv env₁)
    (signed : Step) (hsign : signStep S render k alg repo penv s = .ok signed) :
    ∃ j s' w', yStep signed = .ok j ∧ parseStep f (rereadJ j) = .ok (s', w') ∧
      VerifiesAll S parseSig (S.pubOf k) repo env₁ s' :=
  let ⟨j, s', h⟩ := signed_all_ok S render parseSig k alg repo penv env₁ yamlLeg
    (signed_core_yaml S render parseSig k alg repo penv env₁ hrender henv) f s hok hs hf signed hsign
  ⟨j, s', [], h⟩

theorem signed_list_roundtripY_ok (hrender : ∀ s, parseSig (render s) = some s)
    (l : List Step) (hok : StepsOK l) (hs : StableStepsY l) (f : Nat) (hf : stepsDepth l ≤ f)
    (henv : EnvExtends penv env₁)
    (l' : List Step) (hsign : signSteps S render k alg repo penv l = .ok l') :
    ∃ js ss' ws', ySteps l' = .ok js ∧ parseSteps f (rereadJList js) = .ok (ss', ws') ∧
      VerifiesAllList S parseSig (S.pubOf k) repo env₁ ss' :=
  signed_steps_ok S render parseSig k alg repo penv env₁ yamlLeg
    (signed_core_yaml S render parseSig k alg repo penv env₁ hrender henv) l hok hs f hf l' hsign

theorem signed_list_roundtripY_ok' (hrender : ∀ s, parseSig (render s) = some s)
    (l : List Step) (hok : StepsOK l) (hs : StableSteps l) (f : Nat) (hf : stepsDepth l ≤ f)
    (henv : EnvExtends penv env₁)
    (l' : List Step) (hsign : signSteps S render k alg repo penv l = .ok l') :
    ∃ js ss' ws', ySteps l' = .ok js ∧ parseSteps f (rereadJList js) = .ok (ss', ws') ∧
      VerifiesAllList S parseSig (S.pubOf k) repo env₁ ss' :=
  signed_list_roundtripY_ok S render parseSig k alg repo penv env₁ hrender l hok (stableStepsY_of l hs) f hf henv
    l' hsign

end TreesOKY

end GoPipeline.SignedRT
