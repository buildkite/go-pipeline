/-
  C17 — `fullSource` (the mirror of `(*Plugin).FullSource`) expands the documented short forms and leaves
  the other documented forms as written. `core cut` is what `fullSource` and `fullSourceQ` share after their
  guards; its branches are followed forwards here, and backwards (what a result looks like, for every string)
  in `Lemmas/PluginSourceIdem.lean`.
-/
import GoPipeline.Model.PluginSource
namespace GoPipeline.PluginSrc

theorem ne_of_test {p : Char → Bool} {c d : Char} (h : p c = true) (hd : p d = false) : c ≠ d := by
  rintro rfl
  rw [h] at hd
  cases hd

theorem name_not_mem {n : Str} (h : ∀ c ∈ n, isNameChar c = true) {d : Char}
    (hd : isNameChar d = false) : d ∉ n := fun hm => ne_of_test (h d hm) hd rfl

theorem nameChar_dom {c : Char} (h : isNameChar c = true) : isDomChar c = true := by
  simp [isDomChar, h]

theorem name_dom {n : Str} (h : ∀ c ∈ n, isNameChar c = true) : ∀ c ∈ n, isDomChar c = true :=
  fun c hc => nameChar_dom (h c hc)

theorem alpha_nameChar {c : Char} (h : isAlpha c = true) : isNameChar c = true := by
  simp only [isAlpha, Bool.or_eq_true] at h
  simp only [isNameChar, Bool.or_eq_true]
  rcases h with h | h <;> simp [h]

theorem domChar_not_ctl {c : Char} (h : isDomChar c = true) :
    (decide (c.toNat < 0x20) || c.toNat == 0x7f) = false := by
  simp only [isDomChar, isNameChar, Bool.or_eq_true, Bool.and_eq_true, decide_eq_true_eq, beq_iff_eq,
    Char.le_def, UInt32.le_iff_toNat_le] at h
  -- three ranges of code points, then eight single characters
  rcases h with (((((((((h | h) | h) | h) | h) | h) | h) | h) | h) | h) | h
  iterate 3 (simp at h ⊢; omega)
  all_goals subst h; decide

theorem hasCTL_false_of_dom {s : Str} (h : ∀ c ∈ s, isDomChar c = true) : hasCTL s = false := by
  simp only [hasCTL, List.any_eq_false]
  intro c hc
  simpa using domChar_not_ctl (h c hc)

theorem splitOn_ne_nil (sep : Char) (s : Str) : splitOn sep s ≠ [] := by
  fun_induction splitOn sep s <;> simp

theorem splitOn_cons_ne {sep c : Char} {r h : Str} {t : List Str} (hc : c ≠ sep)
    (hr : splitOn sep r = h :: t) : splitOn sep (c :: r) = (c :: h) :: t := by
  rw [splitOn]
  simp [hc, hr]

theorem splitOn_cons_sep (sep : Char) (r : Str) : splitOn sep (sep :: r) = [] :: splitOn sep r := by
  rw [splitOn]; simp

theorem splitOn_append {sep : Char} {a b h : Str} {t : List Str} (ha : sep ∉ a)
    (hb : splitOn sep b = h :: t) : splitOn sep (a ++ b) = (a ++ h) :: t := by
  induction a with
  | nil => simpa using hb
  | cons c r ih =>
    simp only [List.mem_cons, not_or] at ha
    have := ih ha.2
    rw [List.cons_append, splitOn_cons_ne (Ne.symm ha.1) this]
    rfl

theorem splitOn_append_sep {sep : Char} {a : Str} (b : Str) (ha : sep ∉ a) :
    splitOn sep (a ++ sep :: b) = a :: splitOn sep b := by
  have := splitOn_append (b := sep :: b) ha (splitOn_cons_sep sep b)
  simpa using this

theorem splitOn_of_not_mem {sep : Char} {a : Str} (ha : sep ∉ a) : splitOn sep a = [a] := by
  have := splitOn_append (sep := sep) (b := []) (h := []) (t := []) ha rfl
  simpa using this

theorem joinWith_cons (sep : Char) (x : Str) {l : List Str} (hl : l ≠ []) :
    joinWith sep (x :: l) = x ++ sep :: joinWith sep l := by
  cases l with
  | nil => exact absurd rfl hl
  | cons y r => rfl

theorem joinWith_splitOn (sep : Char) (s : Str) : joinWith sep (splitOn sep s) = s := by
  fun_induction splitOn sep s with
  | case1 => rfl
  | case2 c r hc ih => rw [joinWith_cons _ _ (splitOn_ne_nil _ _), ih, eq_of_beq hc]; rfl
  | case3 c r _ hr => exact absurd hr (splitOn_ne_nil _ _)
  | case4 c r _ h t hr ih =>
    rw [hr] at ih
    cases t <;> (rw [← ih]; rfl)

theorem not_mem_of_mem_splitOn {sep : Char} {s : Str} : ∀ comp ∈ splitOn sep s, sep ∉ comp := by
  fun_induction splitOn sep s with
  | case1 => exact List.forall_mem_cons.2 ⟨List.not_mem_nil, fun _ h => absurd h List.not_mem_nil⟩
  | case2 c r _ ih => exact List.forall_mem_cons.2 ⟨List.not_mem_nil, ih⟩
  | case3 c r _ hr => exact absurd hr (splitOn_ne_nil _ _)
  | case4 c r hc x t hr ih =>
    rw [hr, List.forall_mem_cons] at ih
    exact List.forall_mem_cons.2
      ⟨fun hm => (List.mem_cons.1 hm).elim (fun e => hc (e ▸ beq_self_eq_true _)) ih.1, ih.2⟩

theorem mem_joinWith {sep : Char} {l : List Str} {comp : Str} (h : comp ∈ l) :
    ∀ c ∈ comp, c ∈ joinWith sep l := by
  fun_induction joinWith sep l with
  | case1 => exact absurd h List.not_mem_nil
  | case2 x => rw [List.mem_singleton.1 h]; exact fun _ hc => hc
  | case3 x y r ih =>
    intro c hc
    rcases List.mem_cons.1 h with rfl | h
    · exact List.mem_append_left _ hc
    · exact List.mem_append_right _ (List.mem_cons_of_mem _ (ih h c hc))

theorem mem_of_mem_splitOn {sep : Char} {s comp : Str} (h : comp ∈ splitOn sep s) :
    ∀ c ∈ comp, c ∈ s := by
  have := mem_joinWith (sep := sep) h
  rwa [joinWith_splitOn] at this

theorem splitOn_head_cons {sep c : Char} (r : Str) (hc : c ≠ sep) :
    ∃ h t, splitOn sep (c :: r) = (c :: h) :: t := by
  cases hr : splitOn sep r with
  | nil => exact absurd hr (splitOn_ne_nil _ _)
  | cons h t => exact ⟨h, t, splitOn_cons_ne hc hr⟩

theorem cutHash_cons_ne {c : Char} (r : Str) (hc : c ≠ '#') :
    cutHash (c :: r) = (c :: (cutHash r).1, (cutHash r).2) := by
  rw [cutHash]; simp [hc]

theorem cutHash_cons_hash (r : Str) : cutHash ('#' :: r) = ([], r) := by
  rw [cutHash]; simp

theorem cutHash_append {a : Str} (b : Str) (ha : '#' ∉ a) :
    cutHash (a ++ b) = (a ++ (cutHash b).1, (cutHash b).2) := by
  induction a with
  | nil => simp
  | cons c r ih =>
    simp only [List.mem_cons, not_or] at ha
    rw [List.cons_append, cutHash_cons_ne _ (Ne.symm ha.1), ih ha.2]
    rfl

theorem cutHash_append_hash {a : Str} (b : Str) (ha : '#' ∉ a) :
    cutHash (a ++ '#' :: b) = (a, b) := by
  rw [cutHash_append _ ha, cutHash_cons_hash]; simp

theorem cutHash_of_not_mem {a : Str} (ha : '#' ∉ a) : cutHash a = (a, []) := by
  have := cutHash_append [] ha
  simpa [cutHash] using this

theorem mem_of_mem_cutHash_fst (s : Str) : ∀ c ∈ (cutHash s).1, c ∈ s := by
  fun_induction cutHash s with
  | case1 => exact fun _ h => h
  | case2 c r _ => exact fun _ h => absurd h List.not_mem_nil
  | case3 c r _ a b hr ih =>
    rw [hr] at ih
    intro d hd
    rcases List.mem_cons.1 hd with rfl | hd
    · exact List.mem_cons_self
    · exact List.mem_cons_of_mem _ (ih d hd)
theorem mem_of_mem_cutHash_snd (s : Str) : ∀ c ∈ (cutHash s).2, c ∈ s := by
  fun_induction cutHash s with
  | case1 => exact fun _ h => h
  | case2 c r _ => exact fun _ h => List.mem_cons_of_mem _ h
  | case3 c r _ a b hr ih =>
    rw [hr] at ih
    exact fun d hd => List.mem_cons_of_mem _ (ih d hd)

theorem hash_not_mem_cutHash_fst (s : Str) : '#' ∉ (cutHash s).1 := by
  fun_induction cutHash s with
  | case1 => exact List.not_mem_nil
  | case2 c r _ => exact List.not_mem_nil
  | case3 c r hc a b hr ih =>
    rw [hr] at ih
    intro hm
    rcases List.mem_cons.1 hm with rfl | hm
    · exact hc (beq_self_eq_true _)
    · exact ih hm

/- The three constants consist of name characters; that, and `suffix` not being empty, is all the proofs use
   of them.
   (`+kernel`: the elaborator is slow at evaluating `String.toList` of a literal.) -/
theorem githubCom_name : ∀ c ∈ githubCom, isNameChar c = true := by decide +kernel
theorem bkPlugins_name : ∀ c ∈ bkPlugins, isNameChar c = true := by decide +kernel
theorem suffix_name : ∀ c ∈ suffix, isNameChar c = true := by decide +kernel
theorem suffix_ne_nil : suffix ≠ [] := by decide +kernel

/-- The optional `#frag` tail appended by `lastSegment`. -/
def hashTail (frag : Str) : Str := if frag = [] then [] else '#' :: frag

theorem lastSegment_eq (y frag : Str) : lastSegment y frag = y ++ suffix ++ hashTail frag := by
  unfold lastSegment hashTail
  by_cases h : frag = []
  · simp [h]
  · simp [h]

theorem lastSegment_ne_nil (y frag : Str) : lastSegment y frag ≠ [] := by
  rw [lastSegment_eq]
  intro h
  exact suffix_ne_nil (List.append_eq_nil_iff.1 (List.append_eq_nil_iff.1 h).1).2

theorem getSchemeFrom_no_colon (first : Bool) (acc a : Str) (ha : ':' ∉ a) :
    getSchemeFrom first acc a = .none_ := by
  induction a generalizing first acc with
  | nil => rfl
  | cons c r ih =>
    simp only [List.mem_cons, not_or] at ha
    have hc : (c == ':') = false := by simpa using Ne.symm ha.1
    rw [getSchemeFrom, hc, ih _ _ ha.2]
    cases isAlpha c
    · cases isSchemeTail c
      · rfl
      · cases first <;> rfl
    · rfl

theorem getSchemeFrom_scheme (acc sch rest : Str)
    (hs : ∀ c ∈ sch, isAlpha c = true ∨ isSchemeTail c = true) :
    getSchemeFrom false acc (sch ++ ':' :: rest) = .some_ (acc ++ sch) rest := by
  induction sch generalizing acc with
  | nil => rw [List.append_nil]; rfl
  | cons c r ih =>
    rw [List.cons_append, getSchemeFrom, ih _ fun x hx => hs x (List.mem_cons_of_mem _ hx)]
    rcases hs c List.mem_cons_self with h | h
    · simp [h]
    · cases ha : isAlpha c <;> simp [h]

/-- Everything after the guards; `cut` is what `url.Parse` does to the query (`id`: there is none). -/
def core (cut : Str → Str) (s : Str) : Option Str :=
  let (u, frag) := cutHash s
  if hasCTL u then some s
  else if u == ['*'] then some (githubCom ++ '/' :: bkPlugins ++ '/' :: lastSegment u frag)
  else
    match getScheme u with
    | .err => some s
    | .some_ _ _ => some s
    | .none_ =>
      let rest := cut u
      let seg0 := (splitOn '/' rest).headD []
      if seg0.contains ':' then some s
      else
        match splitOn '/' rest with
        | [p0] => some (githubCom ++ '/' :: bkPlugins ++ '/' :: lastSegment p0 frag)
        | [p0, p1] => some (githubCom ++ '/' :: p0 ++ '/' :: lastSegment p1 frag)
        | _ => some s

theorem fullSource_cons (c0 : Char) (t : Str) :
    fullSource (c0 :: t) =
      if c0 == '/' || c0 == '.' || c0 == '\\' then some (c0 :: t)
      else if (c0 :: t).contains '%' || (c0 :: t).contains '?' then none
      else core id (c0 :: t) := rfl

theorem fullSourceQ_cons (c0 : Char) (t : Str) :
    fullSourceQ (c0 :: t) =
      if c0 == '/' || c0 == '.' || c0 == '\\' then some (c0 :: t)
      else if (c0 :: t).contains '%' then none
      else core cutQuery (c0 :: t) := rfl

theorem dom_no_pct {s : Str} (h : ∀ c ∈ s, isDomChar c = true) :
    (s.contains '%' || s.contains '?') = false := by
  have h1 : '%' ∉ s := fun hm => ne_of_test (h _ hm) (by decide) rfl
  have h2 : '?' ∉ s := fun hm => ne_of_test (h _ hm) (by decide) rfl
  simp [h1, h2]

theorem dom_cut_ne_star {s : Str} (h : ∀ c ∈ s, isDomChar c = true) : (cutHash s).1 ≠ ['*'] := by
  intro e
  have : '*' ∈ (cutHash s).1 := by rw [e]; simp
  exact ne_of_test (h _ (mem_of_mem_cutHash_fst s _ this)) (by decide) rfl

/-- Every way `core` leaves its input as written. -/
theorem core_unchanged (cut : Str → Str) (s : Str) (hstar : (cutHash s).1 ≠ ['*'])
    (hcase : getScheme (cutHash s).1 ≠ .none_ ∨
      ((splitOn '/' (cut (cutHash s).1)).headD []).contains ':' = true ∨
      3 ≤ (splitOn '/' (cut (cutHash s).1)).length) : core cut s = some s := by
  unfold core
  generalize cutHash s = p at hcase hstar
  obtain ⟨u, frag⟩ := p
  simp only at hcase hstar
  have hs : (u == ['*']) = false := by simpa using hstar
  simp only [hs, Bool.false_eq_true, ↓reduceIte]
  split
  · rfl
  split
  · rfl
  · rfl
  · rename_i hsch
    rcases hcase with hcase | hcase | hcase
    · exact absurd hsch hcase
    · simp only [hcase, ↓reduceIte]
    · split
      · rfl
      · split
        · rename_i h1; rw [h1] at hcase; simp at hcase
        · rename_i h1; rw [h1] at hcase; simp at hcase
        · rfl

theorem fullSource_path_or_core {s : Str} (hd : ∀ c ∈ s, isDomChar c = true) :
    fullSource s = some s ∨ fullSource s = core id s := by
  cases s with
  | nil => exact Or.inl rfl
  | cons c0 t =>
    rw [fullSource_cons, dom_no_pct hd]
    split
    · exact Or.inl rfl
    · exact Or.inr rfl

theorem fullSource_unchanged (s : Str) (hd : ∀ c ∈ s, isDomChar c = true)
    (hcase : getScheme (cutHash s).1 ≠ .none_ ∨
      ((splitOn '/' (cutHash s).1).headD []).contains ':' = true ∨
      3 ≤ (splitOn '/' (cutHash s).1).length) : fullSource s = some s :=
  (fullSource_path_or_core hd).elim id fun h => h.trans (core_unchanged id s (dom_cut_ne_star hd) hcase)

theorem nameOrSlash_not_mem {n : Str} (h : ∀ c ∈ n, isNameChar c = true ∨ c = '/') {d : Char}
    (hd : isNameChar d = false) (hd' : d ≠ '/') : d ∉ n := fun hm =>
  (h d hm).elim (fun h1 => ne_of_test h1 hd rfl) hd'

theorem nameOrSlash_dom {c : Char} (h : isNameChar c = true ∨ c = '/') : isDomChar c = true := by
  rcases h with h | h
  · exact nameChar_dom h
  · subst h; decide

theorem withRef_cons (c0 : Char) (t : Str) (ref : Option Str) :
    withRef (c0 :: t) ref = c0 :: withRef t ref := by
  cases ref <;> rfl

theorem cutHash_withRef {u : Str} (ref : Option Str) (hu : '#' ∉ u) :
    cutHash (withRef u ref) = (u, ref.getD []) := by
  cases ref with
  | none => exact cutHash_of_not_mem hu
  | some r => exact cutHash_append_hash r hu

theorem withRef_dom {u : Str} {ref : Option Str} (hu : ∀ c ∈ u, isNameChar c = true ∨ c = '/')
    (hr : RefOptOK ref) : ∀ c ∈ withRef u ref, isDomChar c = true := by
  cases ref with
  | none => exact fun c hc => nameOrSlash_dom (hu c hc)
  | some r =>
    simp only [withRef, List.forall_mem_append, List.forall_mem_cons]
    exact ⟨fun c hc => nameOrSlash_dom (hu c hc), by decide, fun c hc => nameOrSlash_dom (hr.2.1 c hc)⟩

theorem lastSegment_withRef (base y : Str) {ref : Option Str} (hr : RefOptOK ref) :
    base ++ '/' :: lastSegment y (ref.getD []) = withRef (base ++ '/' :: y ++ suffix) ref := by
  cases ref with
  | none => simp [lastSegment, withRef]
  | some r =>
    have : r ≠ [] := hr.1
    simp [lastSegment, withRef, this]

theorem short_form (o rest : Str) (ho : NameOK o) (hrest : ∀ c ∈ rest, isNameChar c = true ∨ c = '/')
    (ref : Option Str) (hr : RefOptOK ref) :
    fullSource (withRef (o ++ rest) ref) =
      match splitOn '/' (o ++ rest) with
      | [p0] => some (githubCom ++ '/' :: bkPlugins ++ '/' :: lastSegment p0 (ref.getD []))
      | [p0, p1] => some (githubCom ++ '/' :: p0 ++ '/' :: lastSegment p1 (ref.getD []))
      | _ => some (withRef (o ++ rest) ref) := by
  obtain ⟨hne, hchars, hhead⟩ := ho
  cases o with
  | nil => exact absurd rfl hne
  | cons c0 t =>
    have hc0 := hchars _ List.mem_cons_self
    have hdot : c0 ≠ '.' := fun e => hhead (by simp [e])
    have hu : ∀ c ∈ c0 :: (t ++ rest), isNameChar c = true ∨ c = '/' :=
      (List.forall_mem_append (l₁ := c0 :: t)).2 ⟨fun c hc => Or.inl (hchars c hc), hrest⟩
    rw [List.cons_append]
    generalize t ++ rest = t at hu
    have hno : ∀ {d}, isNameChar d = false → d ≠ '/' → d ∉ c0 :: t := nameOrSlash_not_mem hu
    have h0 : (c0 == '/' || c0 == '.' || c0 == '\\') = false := by
      simp [hdot, ne_of_test hc0 (d := '/') (by decide), ne_of_test hc0 (d := '\\') (by decide)]
    have hstar : (c0 :: t == ['*']) = false := by
      rw [beq_eq_false_iff_ne]
      exact fun e => hno (d := '*') (by decide) (by decide) (e ▸ List.mem_cons_self)
    have hseg : ((splitOn '/' (c0 :: t)).headD []).contains ':' = false := by
      rw [List.contains_eq_mem, decide_eq_false_iff_not]
      cases hs : splitOn '/' (c0 :: t) with
      | nil => exact List.not_mem_nil
      | cons x l =>
        exact fun hm => hno (by decide) (by decide) (mem_of_mem_splitOn (hs ▸ List.mem_cons_self) _ hm)
    have hd := withRef_dom hu hr
    rw [withRef_cons] at hd ⊢
    rw [fullSource_cons, h0, dom_no_pct hd, core, ← withRef_cons,
      cutHash_withRef ref (hno (by decide) (by decide))]
    simp only [hasCTL_false_of_dom fun c hc => nameOrSlash_dom (hu c hc), hstar, getScheme,
      getSchemeFrom_no_colon _ _ _ (hno (by decide) (by decide)), id, hseg, Bool.false_eq_true, ↓reduceIte]

theorem three_segments_unchanged (a b rest : Str) (ha : NameOK a)
    (hb : ∀ c ∈ b, isNameChar c = true) (hrest : ∀ c ∈ rest, isDomChar c = true) :
    fullSource (a ++ '/' :: b ++ '/' :: rest) = some (a ++ '/' :: b ++ '/' :: rest) := by
  have hnh : '#' ∉ a ++ '/' :: b := by
    simp only [List.mem_append, List.mem_cons, not_or]
    exact ⟨name_not_mem ha.2.1 (by decide), by decide, name_not_mem hb (by decide)⟩
  have hd : ∀ c ∈ a ++ '/' :: b ++ '/' :: rest, isDomChar c = true := by
    simp only [List.forall_mem_append, List.forall_mem_cons]
    exact ⟨⟨name_dom ha.2.1, by decide, name_dom hb⟩, by decide, hrest⟩
  apply fullSource_unchanged _ hd
  right; right
  rw [cutHash_append _ hnh, cutHash_cons_ne _ (by decide)]
  dsimp only
  rw [List.append_assoc, List.cons_append, splitOn_append_sep _ (name_not_mem ha.2.1 (by decide)),
    splitOn_append_sep _ (name_not_mem hb (by decide))]
  exact Nat.succ_le_succ (Nat.succ_le_succ (List.length_pos_iff.2 (splitOn_ne_nil _ _)))

end GoPipeline.PluginSrc
