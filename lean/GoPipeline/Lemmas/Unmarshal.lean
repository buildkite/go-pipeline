/-
  C16 — the reflective unmarshaller model (`Model/Unmarshal.lean`). The key bookkeeping (`fieldTake`,
  `taken`, `outlineKeys`, `remainder`) is characterised by membership lemmas; `outlineKeys` is a sublist
  of `claimKeys`, which gives uniqueness under `WF`; the destination rule `destOf` is "the first ordinary
  field whose `fieldTake` yields the key".
-/
import GoPipeline.Model.Unmarshal
namespace GoPipeline.Unm

/-! ## Association-list lookups -/

theorem lookup_some_mem_keys {V : Type} {l : List (String × V)} {k : String} {v : V}
    (h : l.lookup k = some v) : k ∈ l.map (·.1) := by
  refine Classical.byContradiction fun hk => ?_
  have hn : l.lookup k = none :=
    List.lookup_eq_none_iff.2 fun p hp => bne_iff_ne.2 fun e => hk (e ▸ List.mem_map_of_mem (f := (·.1)) hp)
  rw [hn] at h
  cases h

theorem mem_keys_lookup_some {V : Type} {l : List (String × V)} {k : String}
    (h : k ∈ l.map (·.1)) : ∃ v, l.lookup k = some v := by
  obtain ⟨p, hp, rfl⟩ := List.mem_map.1 h
  exact Option.isSome_iff_exists.1 (Option.isSome_iff_ne_none.2 fun hn => by
    simpa using List.lookup_eq_none_iff.1 hn p hp)

/-! ## `firstAlias` / `fieldTake` -/

/-- `firstAlias` takes the first non-empty alias that is present. -/
theorem firstAlias_eq (m : Entries) : (as : List String) →
    firstAlias m as = (as.filter (· != "")).findSome? fun a => (m.lookup a).map (a, ·)
  | [] => rfl
  | a :: r => by
    unfold firstAlias
    by_cases ha : a = ""
    · rw [if_pos (beq_iff_eq.2 ha), List.filter_cons_of_neg (by simp [ha])]
      exact firstAlias_eq m r
    · rw [if_neg (by simpa using ha), List.filter_cons_of_pos (by simpa using ha), List.findSome?_cons]
      cases m.lookup a with
      | some v => rfl
      | none => exact firstAlias_eq m r

theorem firstAlias_some {m : Entries} {as : List String} {k : String} {v : Val}
    (h : firstAlias m as = some (k, v)) : k ∈ as.filter (· != "") ∧ m.lookup k = some v := by
  rw [firstAlias_eq] at h
  obtain ⟨a, ha, hv⟩ := List.exists_of_findSome?_eq_some h
  cases hl : m.lookup a with
  | none => rw [hl] at hv; cases hv
  | some w =>
    rw [hl] at hv
    cases hv
    exact ⟨ha, hl⟩

theorem firstAlias_value (m : Entries) (as : List String) :
    (firstAlias m as).map (·.2) = (as.filter (· != "")).findSome? (m.lookup ·) := by
  rw [firstAlias_eq, List.map_findSome?]
  congr 1
  funext a
  show ((m.lookup a).map (a, ·)).map (·.2) = m.lookup a
  cases m.lookup a <;> rfl

theorem fieldTake_some {m : Entries} {f : Field} {k : String} {v : Val}
    (h : fieldTake m f = some (k, v)) :
    k ∈ f.key :: f.aliases.filter (· != "") ∧ m.lookup k = some v := by
  unfold fieldTake at h
  cases hl : m.lookup f.key with
  | some w =>
    simp only [hl, Option.some.injEq, Prod.mk.injEq] at h
    obtain ⟨rfl, rfl⟩ := h
    exact ⟨by simp, hl⟩
  | none =>
    simp only [hl] at h
    have := firstAlias_some h
    exact ⟨List.mem_cons_of_mem _ this.1, this.2⟩

/-- The value a field receives is the first present among its tag key and its non-empty aliases. -/
theorem fieldTake_value (m : Entries) (f : Field) :
    (fieldTake m f).map (·.2) = (f.key :: f.aliases.filter (· != "")).findSome? (m.lookup ·) := by
  rw [fieldTake, List.findSome?_cons]
  cases m.lookup f.key with
  | some v => rfl
  | none => exact firstAlias_value m f.aliases

/-! ## `taken`, `outlineKeys`, `claimKeys`: unfolding lemmas -/

theorem taken_cons_some {m : Entries} {f : Field} {r : List Field} {k : String} {v : Val}
    (hr : f.role = .normal) (h : fieldTake m f = some (k, v)) :
    taken m (f :: r) = (f.name, k, v) :: taken m r := by
  simp [taken, hr, h]

theorem taken_cons_none {m : Entries} {f : Field} {r : List Field}
    (hr : f.role = .normal) (h : fieldTake m f = none) :
    taken m (f :: r) = taken m r := by
  simp [taken, hr, h]

theorem taken_cons_other {m : Entries} {f : Field} {r : List Field}
    (hr : f.role ≠ .normal) : taken m (f :: r) = taken m r := by
  cases hrole : f.role <;> simp_all [taken]

theorem claimKeys_cons_normal {f : Field} {r : List Field} (hr : f.role = .normal) :
    claimKeys (f :: r) = (f.key :: f.aliases.filter (· != "")) ++ claimKeys r := by
  simp [claimKeys, hr]

theorem claimKeys_cons_other {f : Field} {r : List Field} (hr : f.role ≠ .normal) :
    claimKeys (f :: r) = claimKeys r := by
  cases hrole : f.role <;> simp_all [claimKeys]

theorem taken_eq_filterMap (m : Entries) : (fs : List Field) →
    taken m fs = fs.filterMap fun f =>
      if f.role = .normal then (fieldTake m f).map fun p => (f.name, p) else none
  | [] => rfl
  | f :: r => by
    rw [List.filterMap_cons, taken, ← taken_eq_filterMap m r]
    cases f.role <;> cases fieldTake m f <;> rfl

theorem mem_taken {m : Entries} {fs : List Field} {n k : String} {v : Val} :
    (n, k, v) ∈ taken m fs ↔
      ∃ f ∈ fs, f.role = .normal ∧ f.name = n ∧ fieldTake m f = some (k, v) := by
  rw [taken_eq_filterMap, List.mem_filterMap]
  refine exists_congr fun f => and_congr_right fun _ => ?_
  by_cases hr : f.role = .normal
  · cases fieldTake m f <;> simp [hr]
  · simp [hr]

theorem mem_outlineKeys {m : Entries} {fs : List Field} {k : String} :
    k ∈ outlineKeys m fs ↔ ∃ f ∈ fs, f.role = .normal ∧ ∃ v, fieldTake m f = some (k, v) := by
  unfold outlineKeys
  rw [List.mem_map]
  constructor
  · rintro ⟨⟨n, k', v⟩, ht, rfl⟩
    obtain ⟨f, hf, h1, _, h3⟩ := mem_taken.1 ht
    exact ⟨f, hf, h1, v, h3⟩
  · rintro ⟨f, hf, h1, v, h3⟩
    exact ⟨(f.name, k, v), mem_taken.2 ⟨f, hf, h1, rfl, h3⟩, rfl⟩

theorem taken_value (fs : List Field) (m : Entries) (f k : String) (v : Val)
    (h : (f, k, v) ∈ taken m fs) : m.lookup k = some v := by
  obtain ⟨g, _, _, _, h3⟩ := mem_taken.1 h
  exact (fieldTake_some h3).2

theorem outlineKeys_subset_keys (m : Entries) (fs : List Field) :
    ∀ k ∈ outlineKeys m fs, k ∈ m.map (·.1) := by
  intro k hk
  obtain ⟨f, _, _, v, h⟩ := mem_outlineKeys.1 hk
  exact lookup_some_mem_keys (fieldTake_some h).2

/-! ## Uniqueness -/

theorem outlineKeys_sublist (m : Entries) (fs : List Field) :
    (outlineKeys m fs).Sublist (claimKeys fs) := by
  induction fs with
  | nil => exact .slnil
  | cons f r ih =>
    unfold outlineKeys at ih ⊢
    by_cases hr : f.role = .normal
    · rw [claimKeys_cons_normal hr]
      cases ht : fieldTake m f with
      | none =>
        rw [taken_cons_none hr ht]
        exact ih.trans (List.sublist_append_right _ _)
      | some p =>
        rw [taken_cons_some hr ht]
        exact (List.singleton_sublist.2 (fieldTake_some ht).1).append ih
    · rw [claimKeys_cons_other hr, taken_cons_other hr]
      exact ih

theorem outline_nodup (fs : List Field) (m : Entries) (wf : WF fs) : (outlineKeys m fs).Nodup :=
  wf.1.sublist (outlineKeys_sublist m fs)

/-! ## Partition -/

theorem perm_append_filter_not {l s : List String} (hl : l.Nodup) (hs : s.Nodup)
    (hsub : ∀ k ∈ s, k ∈ l) : (s ++ l.filter (fun k => !s.contains k)).Perm l := by
  have hf : (l.filter (fun k => !s.contains k)).Nodup := hl.sublist List.filter_sublist
  rw [List.perm_ext_iff_of_nodup _ hl]
  · intro a
    by_cases ha : a ∈ s
    · simp [ha, hsub a ha]
    · simp [ha]
  · rw [List.nodup_append]
    refine ⟨hs, hf, ?_⟩
    intro a ha b hb e
    subst e
    simp [ha] at hb

theorem keys_remainder (m : Entries) (fs : List Field) :
    (remainder m fs).map (·.1) = (m.map (·.1)).filter (fun k => !(outlineKeys m fs).contains k) := by
  unfold remainder
  rw [List.filter_map]
  rfl

theorem partition (fs : List Field) (m : Entries) (hm : (m.map (·.1)).Nodup) (wf : WF fs) :
    (outlineKeys m fs ++ (remainder m fs).map (·.1)).Perm (m.map (·.1)) := by
  rw [keys_remainder]
  exact perm_append_filter_not hm (outline_nodup fs m wf) (outlineKeys_subset_keys m fs)

/-! ## Destination rule -/

/-- `destOf`'s `find?` predicate. -/
def claimsB (m : Entries) (k : String) (f : Field) : Bool :=
  f.role == .normal &&
    (f.key == k || ((m.lookup f.key).isNone && (firstAlias m f.aliases).map (·.1) == some k))

theorem destOf_eq (m : Entries) (fs : List Field) (k : String) :
    destOf m fs k = match fs.find? (claimsB m k) with
      | some f => .field f.name
      | none => .inline := rfl

/-- A field claims `k` exactly when `fieldTake` yields it. -/
theorem claimsB_iff (m : Entries) (f : Field) (k : String) (hk : k ∈ m.map (·.1)) :
    claimsB m k f = true ↔ f.role = .normal ∧ ∃ v, fieldTake m f = some (k, v) := by
  unfold claimsB
  rw [Bool.and_eq_true, beq_iff_eq]
  refine and_congr_right fun _ => ?_
  unfold fieldTake
  cases hl : m.lookup f.key with
  | some w =>
    simp only [Option.isNone_some, Bool.false_and, Bool.or_false, beq_iff_eq, Option.some.injEq,
      Prod.mk.injEq]
    constructor
    · intro h; exact ⟨w, h, rfl⟩
    · rintro ⟨_, h, _⟩; exact h
  | none =>
    have hne : f.key ≠ k := by
      intro e
      obtain ⟨v, hv⟩ := mem_keys_lookup_some hk
      rw [← e, hl] at hv
      cases hv
    have hne' : (f.key == k) = false := by simpa using hne
    simp only [hne', Option.isNone_none, Bool.true_and, Bool.false_or, beq_iff_eq]
    cases hfa : firstAlias m f.aliases with
    | none => simp
    | some p =>
      obtain ⟨a, b⟩ := p
      simp only [Option.map_some, Option.some.injEq, Prod.mk.injEq]
      constructor
      · intro h; exact ⟨b, h, rfl⟩
      · rintro ⟨_, h, _⟩; exact h

/-- The first claimant wins: once a field has taken `k`, no later field yields `k`, because `k` would then
    occur twice in `claimKeys`. Only `(claimKeys fs).Nodup` is needed, not distinct field names. -/
theorem destination_field_aux (fs : List Field) (m : Entries) (wf : (claimKeys fs).Nodup)
    (k : String) (hk : k ∈ m.map (·.1)) (f : String) :
    (∃ v, (f, k, v) ∈ taken m fs) ↔ destOf m fs k = .field f := by
  rw [destOf_eq]
  induction fs with
  | nil => simp [taken]
  | cons g r ih =>
    by_cases hc : claimsB m k g = true
    · obtain ⟨hr, v, ht⟩ := (claimsB_iff m g k hk).1 hc
      rw [List.find?_cons_of_pos hc, taken_cons_some hr ht]
      simp only [Dest.field.injEq, List.mem_cons, Prod.mk.injEq]
      rw [claimKeys_cons_normal hr, List.nodup_append] at wf
      have hkseg := (fieldTake_some ht).1
      constructor
      · rintro ⟨w, h | h⟩
        · exact h.1.symm
        · exfalso
          have : k ∈ outlineKeys m r := List.mem_map.2 ⟨_, h, rfl⟩
          exact wf.2.2 k hkseg k ((outlineKeys_sublist m r).subset this) rfl
      · intro h
        exact ⟨v, Or.inl (by simp [h])⟩
    · have hc' : claimsB m k g = false := by simpa using hc
      rw [List.find?_cons_of_neg (by simpa using hc')]
      have wf' : (claimKeys r).Nodup := by
        by_cases hr : g.role = .normal
        · rw [claimKeys_cons_normal hr, List.nodup_append] at wf; exact wf.2.1
        · rwa [claimKeys_cons_other hr] at wf
      refine Iff.trans ?_ (ih wf')
      have hiff := claimsB_iff m g k hk
      by_cases hr : g.role = .normal
      · cases ht : fieldTake m g with
        | none => rw [taken_cons_none hr ht]
        | some p =>
          obtain ⟨k', v'⟩ := p
          rw [taken_cons_some hr ht]
          have hne : k' ≠ k := by
            intro e; subst e
            exact hc (hiff.2 ⟨hr, v', ht⟩)
          constructor
          · rintro ⟨w, h⟩
            rcases List.mem_cons.1 h with h | h
            · simp only [Prod.mk.injEq] at h
              exact absurd h.2.1.symm hne
            · exact ⟨w, h⟩
          · rintro ⟨w, h⟩; exact ⟨w, List.mem_cons_of_mem _ h⟩
      · rw [taken_cons_other hr]

theorem destOf_inline_iff (fs : List Field) (m : Entries) (k : String) (hk : k ∈ m.map (·.1)) :
    destOf m fs k = .inline ↔ k ∉ outlineKeys m fs := by
  rw [destOf_eq, mem_outlineKeys]
  cases hf : fs.find? (claimsB m k) with
  | some g =>
    simp only [reduceCtorEq, false_iff, Classical.not_not]
    have hg := List.mem_of_find?_eq_some hf
    have hp := List.find?_some hf
    obtain ⟨hr, v, ht⟩ := (claimsB_iff m g k hk).1 hp
    exact ⟨g, hg, hr, v, ht⟩
  | none =>
    simp only [true_iff]
    rintro ⟨g, hg, hr, v, ht⟩
    rw [List.find?_eq_none] at hf
    exact hf g hg ((claimsB_iff m g k hk).2 ⟨hr, v, ht⟩)

theorem mem_keys_remainder (fs : List Field) (m : Entries) (k : String) :
    k ∈ (remainder m fs).map (·.1) ↔ k ∈ m.map (·.1) ∧ k ∉ outlineKeys m fs := by
  rw [keys_remainder]
  simp [List.mem_filter]

/-! ## Frame property of `decodeTaken` -/

theorem getField_setField_ne {g n : String} (v : GoVal) (cvs : List (String × GoVal))
    (h : g ≠ n) : getField g (setField n v cvs) = getField g cvs := by
  unfold getField
  congr 1
  induction cvs with
  | nil => simp [setField]
  | cons p r ih =>
    obtain ⟨n', v'⟩ := p
    unfold setField
    by_cases hn : n = n'
    · subst hn
      have : (g == n) = false := by simpa using h
      simp [List.lookup_cons, this]
    · have hn' : (n == n') = false := by simpa using hn
      simp only [hn', Bool.false_eq_true, if_false, List.lookup_cons]
      rw [ih]

theorem decodeTaken_getField (n : Nat) (fs : List Field) (g : String) :
    ∀ (ts : List (String × String × Val)) (cvs cvs' : List (String × GoVal)),
      decodeTaken n fs ts cvs = .ok cvs' → g ∉ ts.map (·.1) → getField g cvs' = getField g cvs := by
  intro ts
  induction ts with
  | nil =>
    intro cvs cvs' h _
    unfold decodeTaken at h
    cases h
    rfl
  | cons t r ih =>
    intro cvs cvs' h hg
    obtain ⟨fname, k, v⟩ := t
    unfold decodeTaken at h
    simp only [List.map_cons, List.mem_cons, not_or] at hg
    cases hf : fs.find? (fun f => f.name == fname) with
    | none => simp [hf] at h
    | some f =>
      simp only [hf] at h
      cases hu : unmarshal n f.ty v (getField fname cvs) with
      | error e => simp [hu] at h
      | ok x =>
        simp only [hu] at h
        rw [ih _ _ h hg.2, getField_setField_ne _ _ hg.1]

theorem name_inj {fs : List Field} (hn : (fs.map Field.name).Nodup) {f g : Field}
    (hf : f ∈ fs) (hg : g ∈ fs) (h : f.name = g.name) : f = g := by
  induction fs with
  | nil => cases hf
  | cons a r ih =>
    simp only [List.map_cons, List.nodup_cons] at hn
    rcases List.mem_cons.1 hf with rfl | hf' <;> rcases List.mem_cons.1 hg with rfl | hg'
    · rfl
    · exact absurd (h ▸ List.mem_map_of_mem hg') hn.1
    · exact absurd (h ▸ List.mem_map_of_mem hf') hn.1
    · exact ih hn.2 hf' hg'

/-! ## Alias-free descriptors -/

theorem firstAlias_none_of_filter {m : Entries} {as : List String}
    (h : as.filter (· != "") = []) : firstAlias m as = none := by
  rw [firstAlias_eq, h]
  rfl

theorem fieldTake_aliasFree {m : Entries} {f : Field} (h : f.aliases.filter (· != "") = []) :
    fieldTake m f = (m.lookup f.key).map (fun v => (f.key, v)) := by
  unfold fieldTake
  cases m.lookup f.key with
  | some v => rfl
  | none => simp [firstAlias_none_of_filter h]

theorem taken_eq_refTaken (fs : List Field) (m : Entries) (h : aliasFree fs) :
    taken m fs = refTaken m fs := by
  induction fs with
  | nil => rfl
  | cons f r ih =>
    have hf := fieldTake_aliasFree (m := m) (h f List.mem_cons_self)
    have ih' := ih (fun g hg => h g (List.mem_cons_of_mem _ hg))
    unfold taken refTaken
    rw [hf, ih']
    cases f.role <;> cases m.lookup f.key <;> rfl

end GoPipeline.Unm
