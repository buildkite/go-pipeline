/-
  C07 — the merge walk (`rangeMap`) yields the content the YAML merge rules (`specContent`) prescribe.
  Both are compared with `den`, the content a merge value denotes, arranged node by node like the walk:
  the specification unfolds into `den`; the walk, which threads callback chains and skips nodes already
  merged, yields `den` filtered through its chain (`Post`), unless the fuel runs out; and the fuel does not.
-/
import GoPipeline.Lemmas.Yaml
namespace GoPipeline.Yaml
open GoPipeline

/-- The callback chain of the walk, innermost level first: one `keys` set per enclosing mapping. -/
abbrev Chain := List (List String)

abbrev Pairs := List (String × Nat)

theorem mem_flatten_cons {a : List String} {l : Chain} {k : String} :
    k ∈ (a :: l).flatten ↔ k ∈ a ∨ k ∈ l.flatten := by
  rw [List.flatten_cons, List.mem_append]

/-! ## Callback chains up to what can be observed: the unions of their suffixes -/

/-- "Suffix unions": `lv'` arises from `lv` by adding the keys `K` to the union of every suffix, and nothing
    else.  A key passes a chain iff it is in no level, and when a level is popped the rest goes on being used,
    so the suffix unions are all of a chain that later yields can depend on. -/
def SU (lv lv' : List (List String)) (K : List String) : Prop :=
  lv'.length = lv.length ∧
  ∀ i, i < lv.length → ∀ k, k ∈ (lv'.drop i).flatten ↔ (k ∈ (lv.drop i).flatten ∨ k ∈ K)

theorem SU.refl (lv : List (List String)) : SU lv lv [] := ⟨rfl, fun _ _ _ => by simp⟩

theorem SU.trans {a b c : List (List String)} {K1 K2 : List String} (h1 : SU a b K1) (h2 : SU b c K2) :
    SU a c (K1 ++ K2) := by
  refine ⟨h2.1.trans h1.1, fun i hi k => ?_⟩
  rw [h2.2 i (h1.1 ▸ hi) k, h1.2 i hi k, List.mem_append, or_assoc]

theorem SU.congr {a b : List (List String)} {K K' : List String} (h : SU a b K) (hk : ∀ k, k ∈ K ↔ k ∈ K') :
    SU a b K' := ⟨h.1, fun i hi k => by rw [h.2 i hi k, hk k]⟩

theorem SU.flatten {a b : List (List String)} {K : List String} (h : SU a b K) (hne : a ≠ []) (k : String) :
    k ∈ b.flatten ↔ (k ∈ a.flatten ∨ k ∈ K) := by
  have := h.2 0 (List.length_pos_iff.mpr hne) k
  simpa using this

theorem SU.tail {c c' : List String} {o o' : List (List String)} {K : List String}
    (h : SU (c :: o) (c' :: o') K) : SU o o' K := by
  refine ⟨by simpa using h.1, fun i hi k => ?_⟩
  have := h.2 (i + 1) (by simp only [List.length_cons]; omega) k
  simpa using this

theorem SU.ne_nil {a b : Chain} {K : List String} (h : SU a b K) (hne : a ≠ []) : b ≠ [] := by
  intro hb
  subst hb
  have := h.1
  simp only [List.length_nil] at this
  exact hne (List.length_eq_zero_iff.mp this.symm)

theorem yieldChain_spec (lv : List (List String)) (k : String) :
    ((yieldChain lv k).2 = true ↔ k ∉ lv.flatten) ∧
    SU lv (yieldChain lv k).1 (if (yieldChain lv k).2 then [k] else []) := by
  induction lv with
  | nil => simp [yieldChain, SU]
  | cons ks outer ih =>
    obtain ⟨ih1, ih2⟩ := ih
    simp only [yieldChain, List.contains_eq_mem, decide_eq_true_eq]
    by_cases hk : k ∈ ks
    · rw [if_pos hk]
      refine ⟨by simp [hk], ?_⟩
      simpa using SU.refl (ks :: outer)
    · rw [if_neg hk]
      simp only [List.flatten_cons, List.mem_append, hk, false_or]
      refine ⟨ih1, ?_⟩
      refine ⟨by simpa using ih2.1, fun i hi x => ?_⟩
      cases i with
      | zero =>
        -- `k` joins `ks`; whether it also joins the outer chain makes no difference to the union
        have hC : (x = k ∨ x ∈ (yieldChain outer k).1.flatten) ↔
            (x ∈ outer.flatten ∨ x ∈ if (yieldChain outer k).2 then [k] else []) := by
          cases outer with
          | nil => simp [yieldChain]
          | cons o1 o2 =>
            rw [ih2.flatten (List.cons_ne_nil _ _) x]
            refine ⟨fun h => h.elim (fun e => ?_) id, .inr⟩
            rw [e]
            by_cases hb : (yieldChain (o1 :: o2) k).2 = true
            · exact .inr (by rw [if_pos hb]; exact .head _)
            · exact .inl (Classical.not_not.mp fun h' => hb (ih1.mpr h'))
        simp only [List.drop_zero, List.flatten_cons, List.mem_append, List.mem_cons]
        rw [or_comm (a := x = k), or_assoc, hC, or_assoc]
      | succ i =>
        have := ih2.2 i (by simp only [List.length_cons] at hi; omega) x
        simpa using this

/-! ## `den`: the content a merge value denotes, with one fuel that drops at every node

  Same rules as `specContent`/`specSources`/`specMergeAll`, arranged like the walk (node by node). -/

def seqD (d : Option Nat → Except Err Pairs) : List Nat → Except Err Pairs
  | [] => .ok []
  | e :: r =>
    match d (some e) with
    | .error err => .error err
    | .ok a =>
      match seqD d r with
      | .error err => .error err
      | .ok b => .ok (a ++ b)

/-- The pairs a mapping has *after* the position reached, given the keys `have_` it has or will have.
    `g` is the fuel for `canonicalKey`; `den` passes `f + 1`, as `rangePairs` and `explicitKeys` do. -/
def pairsD (s : Store) (d : Option Nat → Except Err Pairs) (g : Nat) : List String → List (Nat × Nat) → Except Err Pairs
  | _, [] => .ok []
  | have_, (k, v) :: rest =>
    match s[k]? with
    | none => .error .other
    | some kn =>
      if kn.isMerge then
        match d (some v) with
        | .error e => .error e
        | .ok c =>
          match pairsD s d g ((keysOf (fresh have_ c)).reverse ++ have_) rest with
          | .error e => .error e
          | .ok r => .ok (fresh have_ c ++ r)
      else
        match canonicalKey s g k with
        | .error e => .error e
        | .ok ck =>
          match pairsD s d g have_ rest with
          | .error e => .error e
          | .ok r => .ok ((ck, v) :: r)

def den (s : Store) : Nat → Option Nat → Except Err Pairs
  | 0, _ => .error .fuel
  | _ + 1, none => .ok []
  | f + 1, some i =>
    match s[i]? with
    | none => .error .other
    | some n =>
      match n.kind with
      | .mapping =>
        match pairsOf n.content with
        | none => .error .other
        | some ps =>
          match explicitKeys s (f + 1) ps with
          | .error e => .error e
          | .ok ks => pairsD s (den s f) (f + 1) ks ps
      | .sequence => seqD (den s f) n.content
      | .alias => den s f n.aliasTo
      | _ => .error .other

theorem seqD_cons_ok {d : Option Nat → Except Err Pairs} {e : Nat} {r : List Nat} {c : Pairs}
    (h : seqD d (e :: r) = .ok c) : ∃ a b, d (some e) = .ok a ∧ seqD d r = .ok b ∧ c = a ++ b := by
  simp only [seqD] at h
  cases h1 : d (some e) with
  | error err => simp [h1] at h
  | ok a =>
    cases h2 : seqD d r with
    | error err => simp [h1, h2] at h
    | ok b => exact ⟨a, b, rfl, rfl, by simpa [h1, h2] using h.symm⟩

theorem pairsD_cons_ok {s : Store} {d : Option Nat → Except Err Pairs} {g k v : Nat} {have_ : List String}
    {rest : List (Nat × Nat)} {Δ : Pairs} (h : pairsD s d g have_ ((k, v) :: rest) = .ok Δ) :
    ∃ kn, s[k]? = some kn ∧
      ((kn.isMerge = true ∧ ∃ c r, d (some v) = .ok c ∧
          pairsD s d g ((keysOf (fresh have_ c)).reverse ++ have_) rest = .ok r ∧ Δ = fresh have_ c ++ r) ∨
       (kn.isMerge = false ∧ ∃ ck r, canonicalKey s g k = .ok ck ∧ pairsD s d g have_ rest = .ok r ∧
          Δ = (ck, v) :: r)) := by
  simp only [pairsD] at h
  obtain ⟨kn, hs, h⟩ := node_ok h
  refine ⟨kn, hs, ?_⟩
  cases hm : kn.isMerge <;> simp only [hm, Bool.false_eq_true, ↓reduceIte] at h
  case true =>
    cases h1 : d (some v) with
    | error e => simp [h1] at h
    | ok c =>
      cases h2 : pairsD s d g ((keysOf (fresh have_ c)).reverse ++ have_) rest with
      | error e => simp [h1, h2] at h
      | ok r => exact .inl ⟨rfl, c, r, rfl, h2, by simpa [h1, h2] using h.symm⟩
  case false =>
    cases h1 : canonicalKey s g k with
    | error e => simp [h1] at h
    | ok ck =>
      cases h2 : pairsD s d g have_ rest with
      | error e => simp [h1, h2] at h
      | ok r => exact .inr ⟨rfl, ck, r, rfl, rfl, by simpa [h1, h2] using h.symm⟩

theorem den_succ_ok {s : Store} {h i : Nat} {c : Pairs} (hd : den s (h + 1) (some i) = .ok c) :
    ∃ n, s[i]? = some n ∧
      ((n.kind = .sequence ∧ seqD (den s h) n.content = .ok c) ∨
       (n.kind = .alias ∧ den s h n.aliasTo = .ok c) ∨
       (n.kind = .mapping ∧ ∃ ps ks, pairsOf n.content = some ps ∧ explicitKeys s (h + 1) ps = .ok ks ∧
          pairsD s (den s h) (h + 1) ks ps = .ok c)) := by
  simp only [den] at hd
  obtain ⟨n, hs, hd⟩ := node_ok hd
  refine ⟨n, hs, ?_⟩
  cases hk : n.kind <;> simp only [hk] at hd <;> try (simp at hd; done)
  · exact .inl ⟨rfl, hd⟩
  · cases hp : pairsOf n.content with
    | none => simp [hp] at hd
    | some ps =>
      cases he : explicitKeys s (h + 1) ps with
      | error e => simp [hp, he] at hd
      | ok ks => exact .inr (.inr ⟨rfl, ps, ks, rfl, he, by simpa [hp, he] using hd⟩)
  · exact .inr (.inl ⟨rfl, hd⟩)

theorem seqD_mono {d d' : Option Nat → Except Err Pairs} (hd : ∀ o c, d o = .ok c → d' o = .ok c) :
    ∀ l c, seqD d l = .ok c → seqD d' l = .ok c := by
  intro l
  induction l with
  | nil => exact fun c h => h
  | cons e r ih =>
    intro c h
    obtain ⟨a, b, h1, h2, rfl⟩ := seqD_cons_ok h
    simp only [seqD, hd _ _ h1, ih b h2]

theorem pairsD_mono {s : Store} {d d' : Option Nat → Except Err Pairs} {g g' : Nat}
    (hd : ∀ o c, d o = .ok c → d' o = .ok c) (hg : g ≤ g') :
    ∀ ps have_ c, pairsD s d g have_ ps = .ok c → pairsD s d' g' have_ ps = .ok c := by
  intro ps
  induction ps with
  | nil => exact fun have_ c h => h
  | cons p rest ih =>
    obtain ⟨k, v⟩ := p
    intro have_ c h
    obtain ⟨kn, hs, ⟨hm, a, b, h1, h2, rfl⟩ | ⟨hm, ck, b, h1, h2, rfl⟩⟩ := pairsD_cons_ok h
    · simp only [pairsD, hs, hm, ↓reduceIte, hd _ _ h1, ih _ _ h2]
    · simp only [pairsD, hs, hm, Bool.false_eq_true, ↓reduceIte, canonicalKey_ok_mono h1 hg, ih _ _ h2]

theorem den_mono (s : Store) : ∀ h h' o c, den s h o = .ok c → h ≤ h' → den s h' o = .ok c := by
  intro h
  induction h with
  | zero => exact fun h' o c hd => nomatch hd
  | succ h ih =>
    intro h' o c hd hle
    obtain ⟨h'', rfl⟩ : ∃ h'', h' = h'' + 1 := ⟨h' - 1, by omega⟩
    cases o with
    | none => exact hd
    | some i =>
      obtain ⟨n, hs, ⟨hk, hd⟩ | ⟨hk, hd⟩ | ⟨hk, ps, ks, hp, he, hd⟩⟩ := den_succ_ok hd
      · simp only [den, hs, hk]
        exact seqD_mono (fun o c hc => ih h'' o c hc (by omega)) _ _ hd
      · simp only [den, hs, hk]
        exact ih h'' _ _ hd (by omega)
      · simp only [den, hs, hk, hp]
        rw [explicitKeys_mono s (h + 1) (h'' + 1) ps (by rw [he]; simp) hle, he]
        exact pairsD_mono (fun o c hc => ih h'' o c hc (by omega)) hle _ _ _ hd

theorem den_functional {s : Store} {h1 h2 : Nat} {o : Option Nat} {c1 c2 : Pairs}
    (a : den s h1 o = .ok c1) (b : den s h2 o = .ok c2) : c1 = c2 := by
  have a' := den_mono s h1 (max h1 h2) o c1 a (Nat.le_max_left _ _)
  have b' := den_mono s h2 (max h1 h2) o c2 b (Nat.le_max_right _ _)
  rw [a'] at b'
  exact Except.ok.inj b'

theorem den_exists_min {s : Store} {o : Option Nat} : ∀ h c, den s h o = .ok c →
    ∃ h0, h0 ≤ h ∧ den s h0 o = .ok c ∧ ∀ h', h' < h0 → ∀ c', den s h' o ≠ .ok c' := by
  intro h
  induction h using Nat.strongRecOn with
  | _ h ih =>
    intro c hd
    by_cases hex : ∃ h', h' < h ∧ ∃ c', den s h' o = .ok c'
    · obtain ⟨h', hlt, c', hd'⟩ := hex
      have := den_functional hd' hd
      subst this
      obtain ⟨h0, h0le, h0d, h0min⟩ := ih h' hlt _ hd'
      exact ⟨h0, by omega, h0d, h0min⟩
    · exact ⟨h, Nat.le_refl _, hd, fun h' hlt c' hc => hex ⟨h', hlt, c', hc⟩⟩

/-! ## The specification is `den` -/

theorem mergeInto_append (U : List String) (out a b : Pairs) :
    mergeInto U out (a ++ b) = mergeInto (mergeInto U out a).1 (mergeInto U out a).2 b := by
  induction a generalizing U out with
  | nil => rfl
  | cons p r ih =>
    obtain ⟨k, v⟩ := p
    simp only [List.cons_append, mergeInto]
    split
    · exact ih U out
    · exact ih _ _

theorem specMergeAll_append (s : Store) : ∀ (a : List Nat) g have_ out b r,
    specMergeAll s g have_ out (a ++ b) = .ok r →
    ∃ mid g2, g2 ≤ g ∧ specMergeAll s g have_ out a = .ok mid ∧ specMergeAll s g2 mid.1 mid.2 b = .ok r := by
  intro a
  induction a with
  | nil =>
    intro g have_ out b r h
    cases g with
    | zero => simp [specMergeAll] at h
    | succ g => exact ⟨(have_, out), g + 1, Nat.le_refl _, by simp [specMergeAll], h⟩
  | cons src a' ih =>
    intro g have_ out b r h
    cases g with
    | zero => simp [specMergeAll] at h
    | succ g =>
      simp only [List.cons_append, specMergeAll] at h ⊢
      cases hc : specContent s g src with
      | error e => simp [hc] at h
      | ok ps =>
        simp only [hc] at h ⊢
        obtain ⟨mid, g2, hle, h1, h2⟩ := ih g _ _ b r h
        exact ⟨mid, g2, by omega, h1, h2⟩

/-- Sources and their contents, given `den` for the contents of mappings with less fuel. -/
theorem specSources_den (s : Store) (G : Nat)
    (HA : ∀ g, g < G → ∀ i ps, specContent s g i = .ok ps → ∃ h, den s h (some i) = .ok ps) : ∀ g1,
    (∀ v srcs, specSources s g1 v = .ok srcs → ∀ g', g' ≤ G → ∀ have_ out r,
      specMergeAll s g' have_ out srcs = .ok r → ∃ h c, den s h v = .ok c ∧ mergeInto have_ out c = r) ∧
    (∀ l srcs, specSourcesList s g1 l = .ok srcs → ∀ g', g' ≤ G → ∀ have_ out r,
      specMergeAll s g' have_ out srcs = .ok r →
      ∃ h c, seqD (den s h) l = .ok c ∧ mergeInto have_ out c = r) := by
  intro g1
  induction g1 with
  | zero => exact ⟨fun _ _ h => (nomatch h), fun _ _ h => (nomatch h)⟩
  | succ g1 ih =>
    obtain ⟨ih1, ih2⟩ := ih
    have hnil : ∀ g' have_ out r, specMergeAll s g' have_ out [] = .ok r → r = (have_, out) := by
      intro g' have_ out r h
      cases g' with
      | zero => simp [specMergeAll] at h
      | succ g' => simpa [specMergeAll] using h.symm
    refine ⟨?_, ?_⟩
    · intro v srcs hsrc g' hg' have_ out r hm
      cases v with
      | none =>
        simp only [specSources, Except.ok.injEq] at hsrc
        subst hsrc
        exact ⟨1, [], by simp [den], by rw [hnil _ _ _ _ hm]; rfl⟩
      | some i =>
        simp only [specSources] at hsrc
        obtain ⟨n, hs, hsrc⟩ := node_ok hsrc
        cases hk : n.kind <;> simp only [hk] at hsrc <;> try (simp at hsrc; done)
        · -- sequence
          obtain ⟨h, c, hd, hmi⟩ := ih2 _ _ hsrc g' hg' have_ out r hm
          exact ⟨h + 1, c, by simp only [den, hs, hk]; exact hd, hmi⟩
        · -- mapping
          simp only [Except.ok.injEq] at hsrc
          subst hsrc
          cases g' with
          | zero => simp [specMergeAll] at hm
          | succ g' =>
            simp only [specMergeAll] at hm
            cases hc : specContent s g' i with
            | error e => simp [hc] at hm
            | ok ps =>
              simp only [hc] at hm
              obtain ⟨h, hd⟩ := HA g' (by omega) i ps hc
              exact ⟨h, ps, hd, (hnil _ _ _ _ hm).symm⟩
        · -- alias
          obtain ⟨h, c, hd, hmi⟩ := ih1 _ _ hsrc g' hg' have_ out r hm
          exact ⟨h + 1, c, by simp only [den, hs, hk]; exact hd, hmi⟩
    · intro l srcs hsrc g' hg' have_ out r hm
      cases l with
      | nil =>
        simp only [specSourcesList, Except.ok.injEq] at hsrc
        subst hsrc
        exact ⟨0, [], by simp [seqD], by rw [hnil _ _ _ _ hm]; rfl⟩
      | cons e rest =>
        simp only [specSourcesList] at hsrc
        cases he : specSources s g1 (some e) with
        | error err => simp [he] at hsrc
        | ok a =>
          simp only [he] at hsrc
          cases hr : specSourcesList s g1 rest with
          | error err => simp [hr, Except.map] at hsrc
          | ok b =>
            simp only [hr, Except.map, Except.ok.injEq] at hsrc
            subst hsrc
            obtain ⟨mid, g2, hle, hm1, hm2⟩ := specMergeAll_append s a g' have_ out b r hm
            obtain ⟨h1, c1, hd1, hmi1⟩ := ih1 _ _ he g' hg' have_ out mid hm1
            obtain ⟨h2, c2, hd2, hmi2⟩ := ih2 _ _ hr g2 (by omega) mid.1 mid.2 r hm2
            refine ⟨max h1 h2, c1 ++ c2, ?_, ?_⟩
            · simp only [seqD]
              rw [den_mono s h1 _ _ _ hd1 (Nat.le_max_left _ _)]
              simp only []
              rw [seqD_mono (fun o c hc => den_mono s h2 (max h1 h2) o c hc (Nat.le_max_right _ _)) _ _ hd2]
            · rw [mergeInto_append, hmi1, hmi2]

/-- `G`: the content claim (`HA`) is available for fuel `< G`; `specPairs` at fuel `f ≤ G + 1` reaches
    `specContent` only below `G`.  `pairsD` gets `h + 1` for keys because `den s (h + 1)` calls it so. -/
theorem specPairs_den (s : Store) (G : Nat)
    (HA : ∀ g, g < G → ∀ i ps, specContent s g i = .ok ps → ∃ h, den s h (some i) = .ok ps) :
    ∀ (ps : List (Nat × Nat)) f, f ≤ G + 1 → ∀ have_ out r, specPairs s f have_ out ps = .ok r →
      ∃ h Δ, pairsD s (den s h) (h + 1) have_ ps = .ok Δ ∧ r.2 = out ++ Δ := by
  intro ps
  induction ps with
  | nil =>
    intro f hf have_ out r h
    cases f with
    | zero => simp [specPairs] at h
    | succ f =>
      simp only [specPairs, Except.ok.injEq] at h
      subst h
      exact ⟨0, [], by simp [pairsD], by simp⟩
  | cons p rest ih =>
    obtain ⟨k, v⟩ := p
    intro f hf have_ out r h
    cases f with
    | zero => simp [specPairs] at h
    | succ f =>
      simp only [specPairs] at h
      obtain ⟨kn, hs, h⟩ := node_ok h
      cases hm : kn.isMerge <;> simp only [hm, Bool.false_eq_true, ↓reduceIte] at h
      case true =>
        cases hsrc : specSources s (f + 1) (some v) with
        | error e => simp [hsrc] at h
        | ok srcs =>
          simp only [hsrc] at h
          cases hma : specMergeAll s f have_ out srcs with
          | error e => simp [hma] at h
          | ok mid =>
            obtain ⟨have', out'⟩ := mid
            simp only [hma] at h
            obtain ⟨h1, c, hd, hmi⟩ :=
              (specSources_den s G HA (f + 1)).1 _ _ hsrc f (by omega) have_ out _ hma
            rw [mergeInto_eq] at hmi
            simp only [Prod.mk.injEq] at hmi
            obtain ⟨hh, ho⟩ := hmi
            obtain ⟨h2, Δ, hp, hr⟩ := ih f (by omega) _ _ _ h
            refine ⟨max h1 h2, fresh have_ c ++ Δ, ?_, ?_⟩
            · simp only [pairsD, hs, hm, ↓reduceIte]
              rw [den_mono s h1 _ _ _ hd (Nat.le_max_left _ _)]
              simp only []
              rw [hh]
              rw [pairsD_mono (fun o c hc => den_mono s h2 (max h1 h2) o c hc (Nat.le_max_right _ _))
                (by omega : h2 + 1 ≤ max h1 h2 + 1) _ _ _ hp]
            · rw [hr, ← ho, List.append_assoc]
      case false =>
        cases hck : canonicalKey s (f + 1) k with
        | error e => simp [hck] at h
        | ok ck =>
          simp only [hck] at h
          obtain ⟨h2, Δ, hp, hr⟩ := ih f (by omega) _ _ _ h
          refine ⟨max f h2, (ck, v) :: Δ, ?_, ?_⟩
          · simp only [pairsD, hs, hm, Bool.false_eq_true, ↓reduceIte]
            rw [canonicalKey_ok_mono hck (by omega : f + 1 ≤ max f h2 + 1)]
            simp only []
            rw [pairsD_mono (fun o c hc => den_mono s h2 (max f h2) o c hc (Nat.le_max_right _ _))
              (by omega : h2 + 1 ≤ max f h2 + 1) _ _ _ hp]
          · rw [hr]; simp

theorem specContent_den (s : Store) : ∀ g i ps, specContent s g i = .ok ps → ∃ h, den s h (some i) = .ok ps := by
  intro g
  induction g using Nat.strongRecOn with
  | _ g ih =>
    intro i ps h
    cases g with
    | zero => simp [specContent] at h
    | succ f =>
      simp only [specContent] at h
      obtain ⟨n, hs, h⟩ := node_ok h
      cases hk : n.kind <;> simp only [hk] at h <;> try (simp at h; done)
      cases hp : pairsOf n.content with
      | none => simp [hp] at h
      | some pr =>
        simp only [hp] at h
        cases he : explicitKeys s (f + 1) pr with
        | error e => simp [he] at h
        | ok ks =>
          simp only [he] at h
          cases hsp : specPairs s f ks [] pr with
          | error e => simp [hsp, Except.map] at h
          | ok r =>
            simp only [hsp, Except.map, Except.ok.injEq] at h
            obtain ⟨h2, Δ, hpd, hr⟩ := specPairs_den s f (fun g hg => ih g (by omega)) pr f (by omega) _ _ _ hsp
            simp only [List.nil_append] at hr
            refine ⟨max f h2 + 1, ?_⟩
            simp only [den, hs, hk, hp]
            rw [explicitKeys_mono s (f + 1) (max f h2 + 1) pr (by rw [he]; simp) (by omega), he]
            simp only []
            rw [pairsD_mono (fun o c hc => den_mono s h2 (max f h2) o c hc (Nat.le_max_right _ _))
              (by omega : h2 + 1 ≤ max f h2 + 1) _ _ _ hpd, ← hr, h]

/-! ## The walk against `den`

  `Cov`: every node already in `merged` whose content can be unfolded within the budget contributes
  nothing new under the current chain (all its keys are in the union of the chain) — this is why the
  `merged` short-cut is invisible.  Nodes whose walk is still in progress are in `merged` too; for
  them the statement is vacuous because the budget is below their minimal unfolding height. -/

/-- Node `j` is covered by the key set `S`: whatever `j` denotes, all its keys are in `S`. -/
def Covd (s : Store) (j : Nat) (S : List String) : Prop :=
  ∀ h c, den s h (some j) = .ok c → ∀ k ∈ keysOf c, k ∈ S

/-- `Covd` for every node of `m`, as far as unfoldings of height `≤ hb` can tell. -/
def Cov (s : Store) (m : List Nat) (S : List String) (hb : Nat) : Prop :=
  ∀ j ∈ m, ∀ h, h ≤ hb → ∀ c, den s h (some j) = .ok c → ∀ k ∈ keysOf c, k ∈ S

/-- What the walk of something denoting `c` did to chain and state: it yielded the pairs of `c` new to the
    chain, added their keys to every suffix union, and `merged` only grew.  This part composes
    (`PostC.trans`, `PostC.lower`); coverage of the newly merged nodes (`Post.cov`) has to be carried along
    by hand, since it speaks of the final chain. -/
structure PostC (lv : Chain) (st : RangeSt) (c : Pairs) (lv' : Chain) (st' : RangeSt) : Prop where
  out : st'.out = st.out ++ fresh lv.flatten c
  su : SU lv lv' (keysOf (fresh lv.flatten c))
  mono : ∀ x ∈ st.merged, x ∈ st'.merged

/-- `PostC`, and every node that entered `merged` is covered by the final chain. -/
structure Post (s : Store) (lv : Chain) (st : RangeSt) (c : Pairs) (lv' : Chain) (st' : RangeSt) : Prop
    extends PostC lv st c lv' st' where
  cov : ∀ j ∈ st'.merged, j ∉ st.merged → Covd s j lv'.flatten

/-- The result `r` of a walk of something denoting `c`: out of fuel, or success with `Post`. -/
def Good (s : Store) (r : Except Err (Chain × RangeSt)) (lv : Chain) (st : RangeSt) (c : Pairs) : Prop :=
  r = .error .fuel ∨ ∃ lv' st', r = .ok (lv', st') ∧ Post s lv st c lv' st'

/-- The induction hypothesis of `main_all`: the walk of any merge value that unfolds at height `hb` is `Good`
    (it is `Main` for all heights `≤ hb`, `CH_of_Main`). -/
def CH (s : Store) (hb : Nat) : Prop :=
  ∀ o c, den s hb o = .ok c → ∀ F lv st, lv ≠ [] → Cov s st.merged lv.flatten hb →
    Good s (rangeImpl s F lv st o) lv st c

theorem PostC.of_covered {lv : Chain} {st : RangeSt} {c : Pairs} (h : ∀ k ∈ keysOf c, k ∈ lv.flatten) :
    PostC lv st c lv st := by
  have := fresh_eq_nil h
  exact ⟨by rw [this]; simp, by rw [this]; exact SU.refl lv, fun _ hx => hx⟩

theorem PostC.trans {lv lv1 lv2 : Chain} {st st1 st2 : RangeSt} {c1 c2 : Pairs} (hne : lv ≠ [])
    (h1 : PostC lv st c1 lv1 st1) (h2 : PostC lv1 st1 c2 lv2 st2) : PostC lv st (c1 ++ c2) lv2 st2 := by
  have hc : fresh lv1.flatten c2 = fresh ((keysOf (fresh lv.flatten c1)).reverse ++ lv.flatten) c2 := by
    apply fresh_congr
    intro k
    rw [h1.su.flatten hne k]
    simp only [List.mem_append, List.mem_reverse]
    exact or_comm
  refine ⟨?_, ?_, fun x hx => h2.mono x (h1.mono x hx)⟩
  · rw [h2.out, h1.out, fresh_append, hc, List.append_assoc]
  · have := h1.su.trans h2.su
    rw [hc] at this
    rw [fresh_append]
    simpa [keysOf] using this

theorem keys_sub_of_su {lv lv' : Chain} {c : Pairs} (hne : lv ≠ [])
    (h : SU lv lv' (keysOf (fresh lv.flatten c))) : ∀ k ∈ keysOf c, k ∈ lv'.flatten := by
  intro k hk
  rw [h.flatten hne k]
  by_cases hin : k ∈ lv.flatten
  · exact .inl hin
  · exact .inr (mem_keys_fresh.mpr ⟨hk, hin⟩)

theorem Cov.after {s : Store} {lv lv' : Chain} {st st' : RangeSt} {c : Pairs} {hb : Nat} (hne : lv ≠ [])
    (hc : Cov s st.merged lv.flatten hb) (hp : Post s lv st c lv' st') : Cov s st'.merged lv'.flatten hb := by
  intro j hj h hle c' hd k hk
  by_cases hold : j ∈ st.merged
  · exact (hp.su.flatten hne k).mpr (.inl (hc j hold h hle c' hd k hk))
  · exact hp.cov j hj hold h c' hd k hk

theorem Cov.mono {s : Store} {m : List Nat} {S S' : List String} {hb hb' : Nat}
    (hc : Cov s m S hb) (hS : ∀ k ∈ S, k ∈ S') (hle : hb' ≤ hb) : Cov s m S' hb' :=
  fun j hj h hh c hd k hk => hS k (hc j hj h (by omega) c hd k hk)

/-- Entering a fresh node `v`: what the walk of its body achieves from the state with `v` marked is what
    the walk of `v` achieves. -/
theorem Post.enter {s : Store} {lv lv' : Chain} {st st' : RangeSt} {c : Pairs} {v : Nat} {h : Nat}
    (hne : lv ≠ []) (hd : den s h (some v) = .ok c)
    (hp : Post s lv { merged := v :: st.merged, out := st.out } c lv' st') : Post s lv st c lv' st' := by
  refine ⟨⟨hp.out, hp.su, fun x hx => hp.mono x (List.mem_cons_of_mem _ hx)⟩, fun j hj hnot => ?_⟩
  by_cases hjv : j = v
  · subst hjv
    intro h' c' hd' k hk
    have := den_functional hd' hd
    subst this
    exact keys_sub_of_su hne hp.su k hk
  · exact hp.cov j hj (by simp only [List.mem_cons, not_or]; exact ⟨hjv, hnot⟩)

theorem Post.yield {s : Store} (lv : Chain) (st : RangeSt) (ck : String) (v : Nat) :
    Post s lv st [(ck, v)] (yieldChain lv ck).1
      (if (yieldChain lv ck).2 then { st with out := st.out ++ [(ck, v)] } else st) := by
  obtain ⟨h1, h2⟩ := yieldChain_spec lv ck
  by_cases hb : (yieldChain lv ck).2 = true
  · have hnin := h1.mp hb
    have hf : fresh lv.flatten [(ck, v)] = [(ck, v)] := by simp [fresh, hnin]
    rw [if_pos hb] at h2 ⊢
    refine ⟨⟨by rw [hf], by rw [hf]; exact h2, fun _ hx => hx⟩, fun j hj hn => absurd hj hn⟩
  · have hin : ck ∈ lv.flatten := by
      by_cases h' : ck ∈ lv.flatten
      · exact h'
      · exact absurd (h1.mpr h') hb
    have hf : fresh lv.flatten [(ck, v)] = [] := by simp [fresh, hin]
    rw [if_neg hb] at h2 ⊢
    refine ⟨⟨by rw [hf]; simp, by rw [hf]; exact h2, fun _ hx => hx⟩, fun j hj hn => absurd hj hn⟩

theorem seq_loop {s : Store} {hb : Nat} (hCH : CH s hb) : ∀ l c, seqD (den s hb) l = .ok c →
    ∀ F lv st, lv ≠ [] → Cov s st.merged lv.flatten hb → Good s (rangeSeq s F lv st l) lv st c := by
  intro l
  induction l with
  | nil =>
    intro c hc F lv st hne hcov
    simp only [seqD, Except.ok.injEq] at hc
    subst hc
    cases F with
    | zero => exact .inl (by simp [rangeSeq])
    | succ F =>
      refine .inr ⟨lv, st, by simp [rangeSeq], ⟨PostC.of_covered (by simp), fun j hj hn => absurd hj hn⟩⟩
  | cons e rest ih =>
    intro c hc F lv st hne hcov
    obtain ⟨a, b, h1, h2, rfl⟩ := seqD_cons_ok hc
    cases F with
    | zero => exact .inl (by simp [rangeSeq])
    | succ F =>
      simp only [rangeSeq]
      rcases hCH _ _ h1 F lv st hne hcov with hf | ⟨lv1, st1, hr, hp1⟩
      · left; rw [hf]
      · rw [hr]
        simp only []
        have hne1 := hp1.su.ne_nil hne
        rcases ih b h2 F lv1 st1 hne1 (hcov.after hne hp1) with hf | ⟨lv2, st2, hr2, hp2⟩
        · exact .inl hf
        · refine .inr ⟨lv2, st2, hr2, ⟨PostC.trans hne hp1.toPostC hp2.toPostC, fun j hj hn => ?_⟩⟩
          by_cases hj1 : j ∈ st1.merged
          · intro h c' hd k hk
            exact (hp2.su.flatten hne1 k).mpr (.inl (hp1.cov j hj1 hn h c' hd k hk))
          · exact hp2.cov j hj hj1

/-- What the walk of a merge value under the chain `cur :: outer` did, seen from `outer`: it added what the
    mapping with keys `have_` takes from `c`.  `agree` (that of `pairs_loop`) is passed on to the new chain,
    and every key `cur` has gained is also in the new outer chain. -/
theorem PostC.lower {cur cur1 have_ : List String} {outer outer1 : Chain} {st st1 : RangeSt} {c : Pairs}
    (h : PostC (cur :: outer) st c (cur1 :: outer1) st1) (hne : outer ≠ [])
    (agree : ∀ k, k ∈ (cur :: outer).flatten ↔ k ∈ have_ ∨ k ∈ outer.flatten) :
    PostC outer st (fresh have_ c) outer1 st1 ∧
    (∀ k, k ∈ (cur1 :: outer1).flatten ↔
      k ∈ (keysOf (fresh have_ c)).reverse ++ have_ ∨ k ∈ outer1.flatten) ∧
    (∀ k ∈ (cur1 :: outer1).flatten, k ∈ cur ∨ k ∈ outer1.flatten) := by
  have hc : fresh (cur :: outer).flatten c = fresh outer.flatten (fresh have_ c) := (fresh_fresh agree c).symm
  have hsu := h.su
  rw [hc] at hsu
  have hlow : PostC outer st (fresh have_ c) outer1 st1 := ⟨by rw [h.out, hc], hsu.tail, h.mono⟩
  have h0 := hsu.flatten (List.cons_ne_nil _ _)
  have h1 := hlow.su.flatten hne
  refine ⟨hlow, fun k => ?_, fun k hk => ?_⟩
  · have hK : k ∈ keysOf (fresh have_ c) → k ∈ outer1.flatten := fun hk => by
      by_cases ho : k ∈ outer.flatten
      · exact (h1 k).mpr (.inl ho)
      · exact (h1 k).mpr (.inr (mem_keys_fresh.mpr ⟨hk, ho⟩))
    rw [h0 k, agree k, List.mem_append, List.mem_reverse, or_assoc, ← h1 k]
    exact ⟨fun h => h.elim (fun a => .inl (.inr a)) .inr,
      fun h => h.elim (fun h => h.elim (fun k' => .inr (hK k')) .inl) .inr⟩
  · rcases (h0 k).mp hk with hk | hk
    · exact (mem_flatten_cons.mp hk).imp_right fun ho => (h1 k).mpr (.inl ho)
    · exact .inr ((h1 k).mpr (.inr hk))

/-- Pass 2 over the pairs of a nested mapping (enclosing chain `outer` non-empty).  `agree`: the walk's `cur`
    and the specification's `have_` differ by keys of `outer` only.  `pending`: the keys of `cur` not yet in
    `outer` are explicit keys still to come, so in the end `outer'` has them all. -/
theorem pairs_loop {s : Store} {hb g : Nat} (hCH : CH s hb) : ∀ ps have_ Δ,
    pairsD s (den s hb) g have_ ps = .ok Δ →
    ∀ F cur outer st ksr, outer ≠ [] → explicitKeys s F ps = .ok ksr →
    (agree : ∀ k, k ∈ (cur :: outer).flatten ↔ k ∈ have_ ∨ k ∈ outer.flatten) →
    (pending : ∀ k ∈ cur, k ∈ outer.flatten ∨ k ∈ ksr) →
    Cov s st.merged (cur :: outer).flatten hb →
    rangePairs s F cur outer st ps = .error .fuel ∨
    ∃ cur' outer' st', rangePairs s F cur outer st ps = .ok (cur', outer', st') ∧
      PostC outer st Δ outer' st' ∧ (∀ k ∈ cur, k ∈ outer'.flatten) ∧
      (∀ j ∈ st'.merged, j ∉ st.merged → Covd s j outer'.flatten) := by
  intro ps
  induction ps with
  | nil =>
    intro have_ Δ hΔ F cur outer st ksr hne hek agree pending hcov
    simp only [pairsD, Except.ok.injEq] at hΔ
    subst hΔ
    cases F with
    | zero => simp [explicitKeys] at hek
    | succ F =>
      simp only [explicitKeys, Except.ok.injEq] at hek
      subst hek
      exact .inr ⟨cur, outer, st, by simp [rangePairs], PostC.of_covered (by simp),
        fun k hk => (pending k hk).resolve_right (List.not_mem_nil), fun j hj hn => absurd hj hn⟩
  | cons p rest ih =>
    obtain ⟨k, v⟩ := p
    intro have_ Δ hΔ F cur outer st ksr hne hek agree pending hcov
    cases F with
    | zero => simp [explicitKeys] at hek
    | succ F =>
      obtain ⟨kn, hs, hcase⟩ := pairsD_cons_ok hΔ
      simp only [explicitKeys, hs] at hek
      simp only [rangePairs, hs]
      rcases hcase with ⟨hm, c, r, h1, h2, rfl⟩ | ⟨hm, ck, r, h1, h2, rfl⟩
      · simp only [hm, ↓reduceIte] at hek ⊢
        rcases hCH _ _ h1 F (cur :: outer) st (by simp) hcov with hf | ⟨lv1, st1, hr, hp1⟩
        · left; rw [hf]
        · rw [hr]
          cases lv1 with
          | nil => have := hp1.su.1; simp at this
          | cons cur1 outer1 =>
            simp only []
            obtain ⟨hlow, agree', hnew⟩ := hp1.toPostC.lower hne agree
            have hne1 : outer1 ≠ [] := hlow.su.ne_nil hne
            have hsub1 : ∀ x ∈ outer.flatten, x ∈ outer1.flatten :=
              fun x hx => (hlow.su.flatten hne x).mpr (.inl hx)
            have pending' : ∀ x ∈ cur1, x ∈ outer1.flatten ∨ x ∈ ksr := fun x hx =>
              (hnew x (mem_flatten_cons.mpr (.inl hx))).elim (fun h => (pending x h).imp_left (hsub1 x)) .inl
            rcases ih _ _ h2 F cur1 outer1 st1 ksr hne1 hek agree' pending' (hcov.after (by simp) hp1) with
              hf | ⟨cur', outer', st', hr2, hp2, hco, hcv⟩
            · exact .inl hf
            · -- every key of the chain after the merge ends up in `outer'`
              have hall : ∀ x ∈ (cur1 :: outer1).flatten, x ∈ outer'.flatten := fun x hx =>
                (mem_flatten_cons.mp hx).elim (hco x) fun h => (hp2.su.flatten hne1 x).mpr (.inl h)
              refine .inr ⟨cur', outer', st', hr2, PostC.trans hne hlow hp2, fun x hx => ?_, fun j hj hn => ?_⟩
              · exact hall x ((hp1.su.flatten (List.cons_ne_nil _ _) x).mpr
                  (.inl (mem_flatten_cons.mpr (.inl hx))))
              · by_cases hj1 : j ∈ st1.merged
                · exact fun h c' hd x hx => hall x (hp1.cov j hj1 hn h c' hd x hx)
                · exact hcv j hj hj1
      · simp only [hm, Bool.false_eq_true, ↓reduceIte] at hek ⊢
        cases hck : canonicalKey s (F + 1) k with
        | error e => simp [hck] at hek
        | ok ck' =>
          have : ck' = ck := by
            rcases canonicalKey_agree (F := F + 1) h1 with h | h
            · rw [hck] at h; cases h
            · rw [hck] at h; exact Except.ok.inj h
          subst this
          simp only [hck] at hek ⊢
          cases hek' : explicitKeys s F rest with
          | error e => simp [hek', Except.map] at hek
          | ok ksr' =>
            simp only [hek', Except.map, Except.ok.injEq] at hek
            subst hek
            have hy := Post.yield (s := s) outer st ck' v
            cases hyc : yieldChain outer ck' with
            | mk outer1 b =>
              rw [hyc] at hy
              simp only at hy
              have hne1 : outer1 ≠ [] := hy.su.ne_nil hne
              have hsub1 : ∀ x ∈ outer.flatten, x ∈ outer1.flatten :=
                fun x hx => (hy.su.flatten hne x).mpr (.inl hx)
              have agree' : ∀ x, x ∈ (cur :: outer1).flatten ↔ x ∈ have_ ∨ x ∈ outer1.flatten := fun x => by
                rw [mem_flatten_cons, hy.su.flatten hne x, ← or_assoc, ← or_assoc, ← mem_flatten_cons, agree x]
              have pending' : ∀ x ∈ cur, x ∈ outer1.flatten ∨ x ∈ ksr' := fun x hx =>
                (pending x hx).elim (fun h => .inl (hsub1 x h)) fun h =>
                  (List.mem_cons.mp h).elim (fun e => .inl (e ▸ keys_sub_of_su hne hy.su ck' (by simp))) .inr
              have hcov1 : Cov s st.merged (cur :: outer1).flatten hb :=
                hcov.mono (fun x hx => mem_flatten_cons.mpr ((mem_flatten_cons.mp hx).imp_right (hsub1 x)))
                  (Nat.le_refl _)
              cases b with
              | false =>
                simp only [Bool.false_eq_true, ↓reduceIte] at hy ⊢
                rcases ih _ _ h2 F cur outer1 st ksr' hne1 hek' agree' pending' hcov1 with
                  hf | ⟨cur', outer', st', hr2, hp2, hco, hcv⟩
                · exact .inl hf
                · exact .inr ⟨cur', outer', st', hr2, PostC.trans hne hy.toPostC hp2, hco, hcv⟩
              | true =>
                simp only [↓reduceIte] at hy ⊢
                rcases ih _ _ h2 F cur outer1 { st with out := st.out ++ [(ck', v)] } ksr' hne1 hek'
                  agree' pending' hcov1 with hf | ⟨cur', outer', st', hr2, hp2, hco, hcv⟩
                · exact .inl hf
                · exact .inr ⟨cur', outer', st', hr2, PostC.trans hne hy.toPostC hp2, hco, hcv⟩

/-- Pass 2 over the pairs of the mapping being ranged (empty enclosing chain: explicit pairs are all yielded). -/
theorem top_loop {s : Store} {hb g : Nat} (hCH : CH s hb) : ∀ ps have_ Δ,
    pairsD s (den s hb) g have_ ps = .ok Δ →
    ∀ F cur st, (∀ k, k ∈ cur ↔ k ∈ have_) → Cov s st.merged cur hb →
    rangePairs s F cur [] st ps = .error .fuel ∨
    ∃ cur' st', rangePairs s F cur [] st ps = .ok (cur', [], st') ∧ st'.out = st.out ++ Δ := by
  intro ps
  induction ps with
  | nil =>
    intro have_ Δ hΔ F cur st agree hcov
    simp only [pairsD, Except.ok.injEq] at hΔ
    subst hΔ
    cases F with
    | zero => exact .inl (by simp [rangePairs])
    | succ F => exact .inr ⟨cur, st, by simp [rangePairs], by simp⟩
  | cons p rest ih =>
    obtain ⟨k, v⟩ := p
    intro have_ Δ hΔ F cur st agree hcov
    cases F with
    | zero => exact .inl (by simp [rangePairs])
    | succ F =>
      obtain ⟨kn, hs, hcase⟩ := pairsD_cons_ok hΔ
      simp only [rangePairs, hs]
      rcases hcase with ⟨hm, c, r, h1, h2, rfl⟩ | ⟨hm, ck, r, h1, h2, rfl⟩
      · simp only [hm, ↓reduceIte]
        have hcov0 : Cov s st.merged [cur].flatten hb := hcov.mono (by simp) (Nat.le_refl _)
        rcases hCH _ _ h1 F [cur] st (by simp) hcov0 with hf | ⟨lv1, st1, hr, hp1⟩
        · left; rw [hf]
        · rw [hr]
          have hc : fresh [cur].flatten c = fresh have_ c := by
            apply fresh_congr
            intro x
            simpa using agree x
          cases lv1 with
          | nil => have := hp1.su.1; simp at this
          | cons cur1 outer1 =>
            have hl := hp1.su.1
            simp only [List.length_cons, List.length_nil, Nat.zero_add, Nat.add_eq_right,
              List.length_eq_zero_iff] at hl
            subst hl
            simp only []
            have agree' : ∀ x, x ∈ cur1 ↔ x ∈ (keysOf (fresh have_ c)).reverse ++ have_ := by
              intro x
              have a := hp1.su.flatten (by simp) x
              rw [hc] at a
              have d := agree x
              simp only [List.flatten_cons, List.flatten_nil, List.append_nil] at a
              rw [List.mem_append, List.mem_reverse, a, d]
              exact or_comm
            have hcov1 : Cov s st1.merged cur1 hb :=
              (hcov0.after (by simp) hp1).mono (by simp) (Nat.le_refl _)
            rcases ih _ _ h2 F cur1 st1 agree' hcov1 with hf | ⟨cur', st', hr2, ho⟩
            · exact .inl hf
            · refine .inr ⟨cur', st', hr2, ?_⟩
              rw [ho, hp1.out, hc, List.append_assoc]
      · simp only [hm, Bool.false_eq_true, ↓reduceIte]
        rcases canonicalKey_agree (F := F + 1) h1 with hf | hok
        · left; rw [hf]
        · rw [hok]
          simp only [yieldChain]
          rcases ih _ _ h2 F cur { st with out := st.out ++ [(ck, v)] } agree hcov with
            hf | ⟨cur', st', hr2, ho⟩
          · exact .inl hf
          · exact .inr ⟨cur', st', hr2, by rw [ho]; simp⟩

/-- The walk of a node `v` whose *least* unfolding height is `h` is `Good`.  Least, because `v` is in `merged`
    while its own body is walked, and `Cov` at heights `< h` then says nothing about `v`. -/
def Main (s : Store) (h : Nat) : Prop :=
  ∀ v c, den s h (some v) = .ok c → (∀ h', h' < h → ∀ c', den s h' (some v) ≠ .ok c') →
    ∀ F lv st, lv ≠ [] → Cov s st.merged lv.flatten h → Good s (rangeImpl s F lv st (some v)) lv st c

theorem CH_of_Main {s : Store} {hb : Nat} (hM : ∀ h, h ≤ hb → Main s h) : CH s hb := by
  intro o c hd F lv st hne hcov
  cases o with
  | none =>
    cases hb with
    | zero => simp [den] at hd
    | succ hb =>
      simp only [den, Except.ok.injEq] at hd
      subst hd
      cases F with
      | zero => exact .inl (by simp [rangeImpl])
      | succ F =>
        exact .inr ⟨lv, st, by simp [rangeImpl], ⟨PostC.of_covered (by simp), fun j hj hn => absurd hj hn⟩⟩
  | some v =>
    obtain ⟨h0, hle, hd0, hmin⟩ := den_exists_min hb c hd
    exact hM h0 hle v c hd0 hmin F lv st hne (hcov.mono (fun _ h => h) hle)

theorem main_all (s : Store) : ∀ h, Main s h := by
  intro h
  induction h using Nat.strongRecOn with
  | _ h ih =>
    cases h with
    | zero => intro v c hd; simp [den] at hd
    | succ hb =>
      have hCH : CH s hb := CH_of_Main (fun h hle => ih h (by omega))
      intro v c hd hmin F lv st hne hcov
      have hd0 := hd
      cases F with
      | zero => exact .inl (by simp [rangeImpl])
      | succ F =>
        simp only [rangeImpl]
        by_cases hin : v ∈ st.merged
        · rw [if_pos (by simpa using hin)]
          exact .inr ⟨lv, st, rfl, ⟨PostC.of_covered (hcov v hin (hb + 1) (Nat.le_refl _) c hd),
            fun j hj hn => absurd hj hn⟩⟩
        · rw [if_neg (by simpa using hin)]
          have hcov1 : Cov s (v :: st.merged) lv.flatten hb := by
            intro j hj h hle c' hd' k hk
            rcases List.mem_cons.mp hj with rfl | hj
            · exact absurd hd' (hmin h (by omega) c')
            · exact hcov j hj h (by omega) c' hd' k hk
          obtain ⟨n, hs, ⟨hk, hd⟩ | ⟨hk, hd⟩ | ⟨hk, ps, ks, hp, he, hd⟩⟩ := den_succ_ok hd
          · simp only [hs, hk]
            rcases seq_loop hCH _ _ hd F lv { merged := v :: st.merged, out := st.out } hne hcov1 with
              hf | ⟨lv', st', hr, hp⟩
            · exact .inl hf
            · exact .inr ⟨lv', st', hr, Post.enter hne hd0 hp⟩
          · simp only [hs, hk]
            rcases hCH _ _ hd F lv { merged := v :: st.merged, out := st.out } hne hcov1 with
              hf | ⟨lv', st', hr, hp⟩
            · exact .inl hf
            · exact .inr ⟨lv', st', hr, Post.enter hne hd0 hp⟩
          · simp only [hs, hk, hp]
            rcases explicitKeys_agree (F := F) he with hf | hok
            · left; rw [hf]
            · rw [hok]
              simp only []
              have hcov2 : Cov s (v :: st.merged) (ks :: lv).flatten hb :=
                hcov1.mono (fun x hx => mem_flatten_cons.mpr (.inr hx)) (Nat.le_refl _)
              rcases pairs_loop hCH ps ks c hd F ks lv { merged := v :: st.merged, out := st.out } ks hne hok
                (fun _ => mem_flatten_cons) (fun k hk => .inr hk) hcov2 with hf | ⟨cur', outer', st', hr, hp2, _, hcv⟩
              · left; rw [hf]
              · rw [hr]
                exact .inr ⟨outer', st', rfl, Post.enter hne hd0 ⟨hp2, hcv⟩⟩

/-- Ranging a mapping yields its `den`otation, unless the fuel runs out. -/
theorem rangeMap_den (s : Store) (h i F : Nat) (n : NodeRec) (c : Pairs) (hs : s[i]? = some n)
    (hk : n.kind = .mapping) (hd : den s h (some i) = .ok c) :
    rangeMap s F i = .error .fuel ∨ rangeMap s F i = .ok c := by
  obtain ⟨h0, _, hd0, hmin⟩ := den_exists_min h c hd
  cases h0 with
  | zero => simp [den] at hd0
  | succ hb =>
    have hCH : CH s hb := CH_of_Main (fun h _ => main_all s h)
    unfold rangeMap
    cases F with
    | zero => exact .inl (by simp [rangeImpl, Except.map])
    | succ F =>
      obtain ⟨n', hs', ⟨hk', _⟩ | ⟨hk', _⟩ | ⟨_, ps, ks, hp, he, hd0⟩⟩ := den_succ_ok hd0
      · cases hs.symm.trans hs'; cases hk.symm.trans hk'
      · cases hs.symm.trans hs'; cases hk.symm.trans hk'
      cases hs.symm.trans hs'
      simp only [rangeImpl, List.contains_nil, Bool.false_eq_true, ↓reduceIte, hs, hk, hp]
      rcases explicitKeys_agree (F := F) he with hf | hok
      · left; rw [hf]; rfl
      · rw [hok]
        simp only []
        have hcov : Cov s [i] ks hb := by
          intro j hj h' hle c' hd' k hk'
          cases List.mem_singleton.mp hj
          exact absurd hd' (hmin h' (by omega) c')
        rcases top_loop hCH ps ks c hd0 F ks { merged := [i], out := [] } (fun _ => Iff.rfl) hcov with
          hf | ⟨cur', st', hr, ho⟩
        · left; rw [hf]; rfl
        · right; rw [hr]; simp [Except.map, ho]

/-! ## Enough fuel, from the specification alone

  `rangeMap_total` needs `AliasFlat` because some key somewhere in the store may be an alias cycle.
  When the specification unfolds, every key the walk looks at has a terminating alias chain: the merge
  values `den` unfolds are `Walkable`. -/

theorem seqD_elems {d : Option Nat → Except Err Pairs} {P : Option Nat → Prop} (hd : ∀ o c, d o = .ok c → P o) :
    ∀ {l c}, seqD d l = .ok c → ∀ e ∈ l, P (some e) := by
  intro l
  induction l with
  | nil => intro c _ e he; cases he
  | cons x r ih =>
    intro c h
    obtain ⟨a, b, h1, h2, _⟩ := seqD_cons_ok h
    exact List.forall_mem_cons.mpr ⟨hd _ _ h1, ih h2⟩

theorem pairsD_pairsOK {s : Store} {d : Option Nat → Except Err Pairs} {g : Nat} {P : Option Nat → Prop}
    (hd : ∀ o c, d o = .ok c → P o) : ∀ {ps have_ Δ}, pairsD s d g have_ ps = .ok Δ → PairsOK s P ps := by
  intro ps
  induction ps with
  | nil => intro _ _ _ kv hkv; cases hkv
  | cons p rest ih =>
    obtain ⟨k, v⟩ := p
    intro have_ Δ h
    obtain ⟨kn, hs, ⟨hm, c, r, h1, h2, _⟩ | ⟨hm, ck, r, h1, h2, _⟩⟩ := pairsD_cons_ok h
    all_goals refine List.forall_mem_cons.mpr ⟨fun kn' hs' => ?_, ih h2⟩
    all_goals cases hs.symm.trans hs'
    · rw [if_pos hm]
      exact hd _ _ h1
    · rw [if_neg (by simp [hm])]
      exact ⟨g, by rw [h1]; simp⟩

theorem walkable_den (s : Store) : Walkable s fun o => ∃ h c, den s h o = .ok c where
  alias := by
    rintro i n ⟨h, c, hd⟩ hs hk
    cases h with
    | zero => simp [den] at hd
    | succ h => exact ⟨h, c, by simpa only [den, hs, hk] using hd⟩
  seq := by
    rintro i n ⟨h, c, hd⟩ hs hk
    cases h with
    | zero => simp [den] at hd
    | succ h =>
      simp only [den, hs, hk] at hd
      exact seqD_elems (P := fun o => ∃ h c, den s h o = .ok c) (fun o c hc => ⟨h, c, hc⟩) hd
  map := by
    rintro i n ps ⟨h, c, hd⟩ hs hk hp
    cases h with
    | zero => simp [den] at hd
    | succ h =>
      simp only [den, hs, hk, hp] at hd
      cases he : explicitKeys s (h + 1) ps with
      | error e => simp [he] at hd
      | ok ks =>
        simp only [he] at hd
        exact pairsD_pairsOK (fun o c hc => ⟨h, c, hc⟩) hd

end GoPipeline.Yaml
