/-
  C13 — lemmas about the parse model (`Model/Parse.lean`) and its composition with the JSON
  marshalling model (`Model/Marshal.lean`).

  `parseStep`/`parseSteps`/`parseGroup` are compiled by well-founded recursion (the fuel does not
  decrease in the `parseSteps → parseStep` call), so everything goes through the generated equation
  lemmas `parseStep.eq_1 … eq_4`, `parseGroup.eq_1` and `parseSteps_nil/cons`.

  * `selOf_*`: the selection never yields `.hardError`; its only error is a non-string `type`.
  * `parseGroup_ok`: a successful group parse returns a `.group` whose step list is the parse of the
    `steps` entry, with no warning.
  * `parse_induction`: induction over the parser's image, one case per way `parseStep` produces a step and
    one for the step list of a group; `parseStep_shape` (a non-unknown step with no warning, or `.unknown`
    of the input itself with exactly one warning) and `json_steps_total` (the parsed tree marshals) are
    instances, as are `StepOK` / `FormOK` / the yaml totality in later files.
  * `parsePipeline_ok`: a successful `parsePipeline` returns as steps the `parseSteps` of `entries v`.
-/
import GoPipeline.Lemmas.ParseEqns
import GoPipeline.Lemmas.StepKind
namespace GoPipeline.Parse
open GoPipeline GoPipeline.Pipe GoPipeline.Marshal GoPipeline.Unm

/-- The step sequence of a decoded document: a bare list, or the `steps` key of a mapping
    (`null`/absent ⇒ no entries). -/
def entries : Val → Option (List Val)
  | .seq xs => some xs
  | .omap m =>
    match m.lookup "steps" with
    | none => some []
    | some .null => some []
    | some (.seq xs) => some xs
    | some _ => none
  | _ => none

theorem entries_omap (m : Entries) :
    entries (.omap m) =
      match m.lookup "steps" with
      | none => some []
      | some .null => some []
      | some (.seq xs) => some xs
      | some _ => none := rfl

def isUnknown : Step → Bool
  | .unknown _ => true
  | _ => false

/-! ## The `steps` field

  The four obligations of `fieldOf_taken_find_key`: the field names of the descriptor are distinct (decided), the
  field is found under its name, it is an ordinary field, and it has no alias (`rfl` each). -/

theorem fieldOf_pipeline_steps (m : Entries) :
    fieldOf (taken m Gen.struct_Pipeline) "Steps" = m.lookup "steps" :=
  (fieldOf_taken_find_key (fs := Gen.struct_Pipeline) (n := "Steps") (by decide +kernel) rfl rfl rfl :)

theorem fieldOf_group_steps (m : Entries) :
    fieldOf (taken m Gen.struct_GroupStep) "Steps" = m.lookup "steps" :=
  (fieldOf_taken_find_key (fs := Gen.struct_GroupStep) (n := "Steps") (by decide +kernel) rfl rfl rfl :)

/-! ## Selection -/

theorem selOf_ne_hardError {m : Entries} {sel : StepKind.Sel} (h : selOf m = .ok sel) : sel ≠ .hardError := by
  simp only [selOf] at h
  split at h
  · cases h
    simp only [StepKind.select]
    split <;> simp
  · cases h
    simp only [StepKind.select]
    split <;> simp
  · cases h

theorem selOf_error {m : Entries} {e : Hard} (h : selOf m = .error e) :
    ∃ t, m.lookup "type" = some t ∧ ∀ s, t ≠ .str s := by
  simp only [selOf] at h
  split at h
  · cases h
  · cases h
  · rename_i t hns ht
    exact ⟨t, ht, fun s hs => hns s hs⟩

theorem selOf_total {m : Entries} (h : ∀ t, m.lookup "type" = some t → ∃ s, t = .str s) :
    ∃ sel, selOf m = .ok sel := by
  simp only [selOf]
  split
  · exact ⟨_, rfl⟩
  · exact ⟨_, rfl⟩
  · rename_i t hns ht
    obtain ⟨s, hs⟩ := h _ ht
    exact absurd hs (hns s)

/-- An empty mapping has no `type` and no kind key. -/
theorem selOf_nil : selOf [] = .ok .inferFail := rfl

/-- The fuel constant as a successor, for the `parseStep (f + 1)` equation lemmas. -/
theorem stepFuel_succ : stepFuel = 9999 + 1 := rfl

/-! ## Groups -/

theorem parseGroup_ok {f : Nat} {m : Entries} {g : Step} (h : parseGroup f m = .ok g) :
    ∃ key grp ss, g = .group key grp (some ss) (remMap (remainder m Gen.struct_GroupStep)) ∧
      (((m.lookup "steps" = none ∨ m.lookup "steps" = some .null) ∧ ss = []) ∨
        ∃ xs, m.lookup "steps" = some (.seq xs) ∧ parseSteps f xs = .ok (ss, [])) := by
  rw [parseGroup.eq_1, fieldOf_group_steps] at h
  split at h
  · cases h
  · rename_i key _
    split at h
    · cases h
    · rename_i grp _
      split at h
      · cases h
      · rename_i ss ws hst
        split at h
        · rename_i hws
          have hws : ws = [] := by simpa using hws
          subst hws
          injection h with h
          refine ⟨key, grp, ss, h.symm, ?_⟩
          split at hst
          · rename_i hl
            injection hst with hst; injection hst with h1 h2
            exact .inl ⟨.inl hl, h1.symm⟩
          · rename_i hl
            injection hst with hst; injection hst with h1 h2
            exact .inl ⟨.inr hl, h1.symm⟩
          · rename_i xs hl
            exact .inr ⟨xs, hl, hst⟩
          · cases hst
        · cases h

/-! ## Shape of a parsed step -/

/-! Forward evaluation on a mapping whose selection is known. -/

theorem parseStep_inferFail {f : Nat} {m : Entries} (h : selOf m = .ok .inferFail) :
    parseStep (f + 1) (.omap m) = .ok (.unknown (.omap m), [.inferFail]) := by
  rw [parseStep.eq_3, h]

theorem parseStep_command_fallback {f : Nat} {m : Entries} (h : selOf m = .ok (.known .command))
    (he : (parseCommand m).toBool = false) :
    parseStep (f + 1) (.omap m) = .ok (.unknown (.omap m), [.fellBack]) := by
  rw [parseStep.eq_3, h]
  cases hp : parseCommand m with
  | ok c => rw [hp] at he; cases he
  | error e => rfl

/-! ## Step lists -/

theorem entries_omap_some {m : Entries} {xs : List Val} (h : entries (.omap m) = some xs) :
    xs = [] ∨ m.lookup "steps" = some (.seq xs) := by
  rw [entries_omap] at h
  split at h
  · cases h; exact .inl rfl
  · cases h; exact .inl rfl
  · rename_i hl
    cases h; exact .inr hl
  · cases h

/-! ## Induction over the parser's image -/

section ParseInduction
variable {P : Nat → Val → Step → List Warn → Prop} {PL : Nat → List Val → List Step → List Warn → Prop}
  (unknown : ∀ f x a, P (f + 1) x (.unknown x) [a])
  (scalarWait : ∀ f t, StepKind.selectScalar Gen.scalarTable t = .known .wait →
    P (f + 1) (.str t) (.wait t none) [])
  (scalarInput : ∀ f t, StepKind.selectScalar Gen.scalarTable t = .known .input →
    P (f + 1) (.str t) (.input t none) [])
  (command : ∀ f m c, selOf m = .ok (.known .command) → parseCommand m = .ok c →
    P (f + 1) (.omap m) (.command c) [])
  (wait : ∀ f m, selOf m = .ok (.known .wait) → P (f + 1) (.omap m) (.wait "" (some (umapOf m))) [])
  (input : ∀ f m, selOf m = .ok (.known .input) → P (f + 1) (.omap m) (.input "" (some (umapOf m))) [])
  (trigger : ∀ f m, selOf m = .ok (.known .trigger) → P (f + 1) (.omap m) (.trigger (some (umapOf m))) [])
  (group : ∀ f m key grp xs ss, selOf m = .ok (.known .group) → entries (.omap m) = some xs →
    parseSteps f xs = .ok (ss, []) → PL f xs ss [] →
    P (f + 1) (.omap m) (.group key grp (some ss) (remMap (remainder m Gen.struct_GroupStep))) [])
  (nil : ∀ f, PL f [] [] [])
  (cons : ∀ f x xs s ss w ws, P f x s w → PL f xs ss ws → PL f (x :: xs) (s :: ss) (w ++ ws))
include nil cons

theorem parse_induction_list (f : Nat) (ih : ∀ x s w, parseStep f x = .ok (s, w) → P f x s w) :
    (xs : List Val) → (ss : List Step) → (ws : List Warn) → parseSteps f xs = .ok (ss, ws) → PL f xs ss ws
  | [], ss, ws, h => by
    rw [parseSteps.eq_1] at h
    cases h
    exact nil f
  | x :: xs, ss, ws, h => by
    obtain ⟨s, w, ss', ws', hs, hss, rfl, rfl⟩ := parseSteps_cons_ok h
    exact cons f x xs s ss' w ws' (ih x s w hs) (parse_induction_list f ih xs ss' ws' hss)

include unknown scalarWait scalarInput command wait input trigger group

theorem parse_induction_step : ∀ f x s w, parseStep f x = .ok (s, w) → P f x s w
  | 0, x, s, w, h => by rw [parseStep.eq_1] at h; cases h
  | f + 1, x, s, w, h => by
    cases x with
    | str t =>
      rw [parseStep.eq_2] at h
      split at h
      · rename_i hsel
        cases h
        exact scalarWait f t hsel
      · rename_i hsel
        cases h
        exact scalarInput f t hsel
      · cases h
        exact unknown f _ _
    | omap m =>
      rw [parseStep.eq_3] at h
      split at h
      · cases h
      · rename_i sel hsel
        split at h
        · cases h
        · cases h; exact unknown f _ _
        · cases h; exact unknown f _ _
        · split at h
          · rename_i c hc
            cases h
            exact command f m c hsel hc
          · cases h; exact unknown f _ _
        · cases h; exact wait f m hsel
        · cases h; exact input f m hsel
        · cases h; exact trigger f m hsel
        · split at h
          · rename_i g hg
            cases h
            obtain ⟨key, grp, ss, rfl, hsteps⟩ := parseGroup_ok hg
            have ihl := parse_induction_list nil cons f
              (parse_induction_step f)
            rcases hsteps with ⟨hl | hl, rfl⟩ | ⟨xs, hl, hps⟩
            · exact group f m key grp [] [] hsel (by rw [entries_omap, hl]) (parseSteps_nil f) (nil f)
            · exact group f m key grp [] [] hsel (by rw [entries_omap, hl]) (parseSteps_nil f) (nil f)
            · exact group f m key grp xs ss hsel (by rw [entries_omap, hl]) hps (ihl xs ss [] hps)
          · cases h; exact unknown f _ _
        · cases h; exact unknown f _ _
    | null | bool _ | int _ | float _ | time _ | seq _ | umap _ =>
      rw [parseStep.eq_4 _ _ (by intro s h; cases h) (by intro m h; cases h)] at h; cases h

/-- Induction over the image of the parser: one case per way `parseStep` produces a step. -/
theorem parse_induction : (∀ f x s w, parseStep f x = .ok (s, w) → P f x s w) ∧
    (∀ f xs ss ws, parseSteps f xs = .ok (ss, ws) → PL f xs ss ws) :=
  have h := parse_induction_step unknown scalarWait scalarInput command wait input trigger group nil cons
  ⟨h, fun f => parse_induction_list nil cons f (h f)⟩

end ParseInduction

theorem parseStep_shape {f : Nat} {x : Val} {s : Step} {w : List Warn} (h : parseStep f x = .ok (s, w)) :
    (isUnknown s = false ∧ w = []) ∨ (s = .unknown x ∧ ∃ a, w = [a]) :=
  (parse_induction (P := fun _ x s w => (isUnknown s = false ∧ w = []) ∨ (s = .unknown x ∧ ∃ a, w = [a]))
    (PL := fun _ _ _ _ => True) (unknown := fun _ _ a => .inr ⟨rfl, a, rfl⟩)
    (scalarWait := fun _ _ _ => .inl ⟨rfl, rfl⟩) (scalarInput := fun _ _ _ => .inl ⟨rfl, rfl⟩)
    (command := fun _ _ _ _ _ => .inl ⟨rfl, rfl⟩) (wait := fun _ _ _ => .inl ⟨rfl, rfl⟩)
    (input := fun _ _ _ => .inl ⟨rfl, rfl⟩) (trigger := fun _ _ _ => .inl ⟨rfl, rfl⟩)
    (group := fun _ _ _ _ _ _ _ _ _ _ => .inl ⟨rfl, rfl⟩) (nil := fun _ => trivial)
    (cons := fun _ _ _ _ _ _ _ _ _ => trivial)).1 f x s w h

/-! ## Hard errors -/

theorem parseStep_omap_total {f : Nat} {m : Entries} {sel : StepKind.Sel} (hsel : selOf m = .ok sel) :
    ∃ s w, parseStep (f + 1) (.omap m) = .ok (s, w) := by
  rw [parseStep.eq_3, hsel]
  cases sel with
  | hardError => exact absurd rfl (selOf_ne_hardError hsel)
  | unknownType | inferFail => exact ⟨_, _, rfl⟩
  | known k =>
    cases k with
    | command => cases parseCommand m <;> exact ⟨_, _, rfl⟩
    | group => cases parseGroup f m <;> exact ⟨_, _, rfl⟩
    | wait | input | trigger | unknown => exact ⟨_, _, rfl⟩

theorem parseStep_str_total (f : Nat) (t : String) : ∃ s w, parseStep (f + 1) (.str t) = .ok (s, w) := by
  rw [parseStep.eq_2]
  split <;> exact ⟨_, _, rfl⟩

theorem parseStep_error {f : Nat} {x : Val} {e : Hard} (h : parseStep (f + 1) x = .error e) :
    ((∀ s, x ≠ .str s) ∧ (∀ m, x ≠ .omap m)) ∨
      (∃ m t, x = .omap m ∧ m.lookup "type" = some t ∧ ∀ s, t ≠ .str s) := by
  cases x with
  | str t =>
    obtain ⟨s, w, hs⟩ := parseStep_str_total f t
    rw [hs] at h; cases h
  | omap m =>
    cases hsel : selOf m with
    | error e' =>
      obtain ⟨t, ht, hns⟩ := selOf_error hsel
      exact .inr ⟨m, t, rfl, ht, hns⟩
    | ok sel =>
      obtain ⟨s, w, hs⟩ := parseStep_omap_total (f := f) hsel
      rw [hs] at h; cases h
  | null | bool _ | int _ | float _ | time _ | seq _ | umap _ =>
    exact .inl ⟨(by intro s h; cases h), (by intro m h; cases h)⟩

/-! ## The pipeline level -/

theorem parsePipeline_ok {v : Val} {p : Pipeline} {ws : List Warn} (h : parsePipeline v = .ok (p, ws)) :
    ∃ xs l ws', entries v = some xs ∧ p.steps = some l ∧ parseSteps stepFuel xs = .ok (l, ws') := by
  unfold parsePipeline at h
  simp only [fieldOf_pipeline_steps] at h
  split at h
  · rename_i m
    split at h
    · cases h
    · rename_i steps ws1 hst
      split at h
      · cases h
      · have key : ∃ xs l ws', entries (.omap m) = some xs ∧ steps.getD [] = l ∧
            parseSteps stepFuel xs = .ok (l, ws') := by
          rw [entries_omap]
          split at hst
          · rename_i hl
            cases hst
            exact ⟨[], [], [], by rw [hl], rfl, parseSteps_nil _⟩
          · rename_i hl
            cases hst
            exact ⟨[], [], [], by rw [hl], rfl, parseSteps_nil _⟩
          · rename_i xs hl
            cases hps : parseSteps stepFuel xs with
            | error e => rw [hps] at hst; cases hst
            | ok r =>
              rw [hps] at hst
              cases hst
              exact ⟨xs, r.1, r.2, by rw [hl], rfl, hps⟩
          · cases hst
        obtain ⟨xs, l, ws', he, rfl, hps⟩ := key
        refine ⟨xs, _, ws', he, ?_, hps⟩
        cases steps <;> (cases h; rfl)
  · rename_i xs
    split at h
    · cases h
    · rename_i ss ws1 hps
      cases h
      exact ⟨xs, _, _, rfl, rfl, hps⟩
  · cases h

/-- Forward evaluation of `parsePipeline` on a mapping whose `steps` are a sequence (for concrete documents). -/
theorem parsePipeline_omap_seq {m : Entries} {xs : List Val} {ss : List Step} {ws : List Warn}
    {env : Option (List (String × String))} (hl : m.lookup "steps" = some (.seq xs))
    (hs : parseSteps stepFuel xs = .ok (ss, ws))
    (he : optField (taken m Gen.struct_Pipeline) "Env" none parseEnvOrdered = .ok env) :
    parsePipeline (.omap m) =
      .ok ({ steps := some ss, env := env, rem := remMap (remainder m Gen.struct_Pipeline) }, ws) := by
  unfold parsePipeline
  simp only [fieldOf_pipeline_steps, hl, hs, he, Except.map]

theorem steps_non_nil (v : Val) (p : Pipeline) (ws : List Warn) (h : parsePipeline v = .ok (p, ws)) :
    ∃ l, p.steps = some l := by
  obtain ⟨_, l, _, _, hl, _⟩ := parsePipeline_ok h
  exact ⟨l, hl⟩

/-! ## Marshalling a parsed pipeline -/

/-- The parser never produces the one step `mStep` rejects, an input step with neither a scalar nor contents. -/
theorem json_steps_total :
    (∀ f x s w, parseStep f x = .ok (s, w) → ∃ j, mStep s = .ok j) ∧
    (∀ f xs ss ws, parseSteps f xs = .ok (ss, ws) → ∃ js, mSteps ss = .ok js) := by
  apply parse_induction
  case unknown => exact fun _ x _ => ⟨x, mStep_unknown x⟩
  case scalarWait => exact fun _ _ _ => ⟨_, mStep_wait _ _⟩
  case scalarInput =>
    intro f t hsel
    have ht : t ≠ "" := by
      rintro rfl
      rw [StepKind.selectScalar_empty] at hsel
      cases hsel
    exact ⟨_, by rw [mStep_input, if_pos (by simpa using ht)]⟩
  case command => exact fun _ _ c _ _ => ⟨_, mStep_command c⟩
  case wait => exact fun _ _ _ => ⟨_, mStep_wait _ _⟩
  case input =>
    intro f m hsel
    have hm : m ≠ [] := by
      rintro rfl
      rw [selOf_nil] at hsel
      cases hsel
    have hlen : (lenUMap (some (umapOf m)) == 0) = false := by simpa [lenUMap] using umapOf_ne_nil hm
    exact ⟨_, by rw [mStep_input, hlen]; rfl⟩
  case trigger => exact fun _ _ _ => ⟨_, mStep_trigger _⟩
  case group =>
    intro f m key grp xs ss _ _ _ ih
    obtain ⟨js, hjs⟩ := ih
    exact ⟨_, by rw [mStep_group_some, hjs]; rfl⟩
  case nil => exact fun _ => ⟨[], mSteps_nil⟩
  case cons =>
    intro f x xs s ss w ws ih1 ih2
    obtain ⟨j, hj⟩ := ih1
    obtain ⟨js, hjs⟩ := ih2
    exact ⟨j :: js, by rw [mSteps_cons, hj, hjs]⟩

theorem marshal_succeeds (v : Val) (p : Pipeline) (ws : List Warn) (h : parsePipeline v = .ok (p, ws)) :
    ∃ j, mPipeline p = .ok j := by
  obtain ⟨xs, l, ws', _, hl, hps⟩ := parsePipeline_ok h
  obtain ⟨js, hjs⟩ := json_steps_total.2 _ xs l ws' hps
  unfold mPipeline
  rw [hl]
  simp only [hjs, Except.map]
  exact ⟨_, rfl⟩

end GoPipeline.Parse
