/-
  C14 — lemmas about the JSON model and the RFC 8785 serialiser (`Model/Jcs.lean`).

  1. Strings: `escChar` has a one-step decoder (`unescChar_escChar`), so the escape code is prefix-free
     and never starts with `"`; a quoted string followed by anything determines the string and the
     rest (`quote_inj`).
  2. Values: `ser` is injective on well-formed values, even when followed by a delimiter-initial rest
     (`ser_inj`, mutual structural recursion over the nested inductive `J`); `ser_injective`.
  3. `canon` preserves well-formedness and `a ≃ canon a`; `Equiv` is an equivalence (induction on
     derivations; on objects a permutation commutes with the memberwise relation,
     `equivMembers_perm`); `jcs_injective`.
  4. `Equiv` values have equal canonical forms (`jcs_order_insensitive`): sorted permutations with
     distinct keys are unique because `keyLe` is a linear order on key strings (`utf16s` is injective).
  5. What `Equiv` says of the members of two objects (`equiv_obj_mem_left/right`).
-/
import Batteries.Data.List.Basic   -- `List.Forall₂`
import GoPipeline.Model.Jcs
namespace GoPipeline.Jcs

/-! ## 1. Strings -/

/-- Inverse of `hexDigit` on its range. -/
def unhex (h : Char) : Nat := if h.toNat < 58 then h.toNat - 48 else h.toNat - 87

theorem unhex_hexDigit : ∀ n < 16, unhex (hexDigit n) = n := by decide

/-- The character a two-character escape `\d` stands for; `escChar` emits only the seven `d` below, so the
    last, `r`, is the default branch. -/
def unSimple (d : Char) : Char :=
  if d = '"' then '"' else if d = '\\' then '\\' else if d = 'b' then '\x08' else if d = 't' then '\t'
  else if d = 'n' then '\n' else if d = 'f' then '\x0c' else '\r'

/-- Reads one (escaped) character off the front of string content; the closing quote is not one. -/
def unescChar : List Char → Option (Char × List Char)
  | [] => none
  | c :: r =>
    if c = '"' then none
    else if c ≠ '\\' then some (c, r)
    else match r with
      | 'u' :: _ :: _ :: a :: b :: r' => some (Char.ofNat (16 * unhex a + unhex b), r')
      | d :: r' => some (unSimple d, r')
      | [] => none

/-- `escChar` is uniquely decodable: the code is prefix-free and never starts with `"`. -/
theorem unescChar_escChar (c : Char) (x : List Char) : unescChar (escChar c ++ x) = some (c, x) := by
  by_cases hs : c ∈ ['"', '\\', '\x08', '\t', '\n', '\x0c', '\r']
  · simp only [List.mem_cons, List.not_mem_nil, or_false] at hs
    rcases hs with rfl | rfl | rfl | rfl | rfl | rfl | rfl <;> rfl
  · simp only [List.mem_cons, List.not_mem_nil, or_false, not_or] at hs
    obtain ⟨h1, h2, h3, h4, h5, h6, h7⟩ := hs
    rw [escChar, if_neg h1, if_neg h2, if_neg h3, if_neg h4, if_neg h5, if_neg h6, if_neg h7]
    by_cases h8 : c.toNat < 32
    · rw [if_pos h8]
      show some (Char.ofNat (16 * unhex (hexDigit (c.toNat / 16)) + unhex (hexDigit (c.toNat % 16))), x) = _
      rw [unhex_hexDigit _ (by omega), unhex_hexDigit _ (by omega), Nat.div_add_mod, Char.ofNat_toNat]
    · rw [if_neg h8]
      show (if c = '"' then none else if c ≠ '\\' then some (c, x) else _) = _
      rw [if_neg h1, if_pos h2]

theorem escChar_inj (c₁ c₂ : Char) (x₁ x₂ : List Char) (h : escChar c₁ ++ x₁ = escChar c₂ ++ x₂) :
    c₁ = c₂ ∧ x₁ = x₂ :=
  Prod.mk.inj (Option.some.inj
    ((unescChar_escChar c₁ x₁).symm.trans ((congrArg unescChar h).trans (unescChar_escChar c₂ x₂))))

theorem escChar_ne_quote (c : Char) (x y : List Char) : escChar c ++ x ≠ '"' :: y := fun h =>
  nomatch (show some (c, x) = none from (unescChar_escChar c x).symm.trans (congrArg unescChar h))

theorem escStr_inj : ∀ (s₁ s₂ r₁ r₂ : List Char), escStr s₁ ++ '"' :: r₁ = escStr s₂ ++ '"' :: r₂ → s₁ = s₂ ∧ r₁ = r₂
  | [], [], r₁, r₂, h => by simpa [escStr] using h
  | [], c :: s, r₁, r₂, h => by
    simp only [escStr, List.nil_append, List.append_assoc] at h
    exact absurd h.symm (escChar_ne_quote _ _ _)
  | c :: s, [], r₁, r₂, h => by
    simp only [escStr, List.nil_append, List.append_assoc] at h
    exact absurd h (escChar_ne_quote _ _ _)
  | c₁ :: s₁, c₂ :: s₂, r₁, r₂, h => by
    simp only [escStr, List.append_assoc] at h
    obtain ⟨rfl, h'⟩ := escChar_inj _ _ _ _ h
    obtain ⟨rfl, rfl⟩ := escStr_inj s₁ s₂ r₁ r₂ h'
    exact ⟨rfl, rfl⟩

theorem quote_inj (s₁ s₂ r₁ r₂ : List Char) (h : quote s₁ ++ r₁ = quote s₂ ++ r₂) : s₁ = s₂ ∧ r₁ = r₂ := by
  simp only [quote, List.cons_append, List.append_assoc, List.cons.injEq, true_and, List.nil_append] at h
  exact escStr_inj _ _ _ _ h

/-! ## 2. Values -/

/-- The rest after a value is empty or starts with a delimiter. -/
def Delim (r : List Char) : Prop := ∀ c t, r = c :: t → isNumChar c = false

theorem delim_nil : Delim [] := by intro c t h; cases h
theorem delim_comma (t : List Char) : Delim (',' :: t) := by
  intro c t h; cases h; decide
theorem delim_rbracket (t : List Char) : Delim (']' :: t) := by
  intro c t h; cases h; decide
theorem delim_rbrace (t : List Char) : Delim ('}' :: t) := by
  intro c t h; cases h; decide

theorem numTok_inj : ∀ (l₁ l₂ r₁ r₂ : List Char), (∀ c ∈ l₁, isNumChar c = true) → (∀ c ∈ l₂, isNumChar c = true) →
    Delim r₁ → Delim r₂ → l₁ ++ r₁ = l₂ ++ r₂ → l₁ = l₂ ∧ r₁ = r₂
  | [], [], r₁, r₂, _, _, _, _, h => ⟨rfl, by simpa using h⟩
  | [], c :: l, r₁, r₂, _, h₂, d₁, _, h => by
    simp only [List.nil_append, List.cons_append] at h
    have := d₁ _ _ h
    simp [h₂ c (by simp)] at this
  | c :: l, [], r₁, r₂, h₁, _, _, d₂, h => by
    simp only [List.nil_append, List.cons_append] at h
    have := d₂ _ _ h.symm
    simp [h₁ c (by simp)] at this
  | c₁ :: l₁, c₂ :: l₂, r₁, r₂, h₁, h₂, d₁, d₂, h => by
    simp only [List.cons_append, List.cons.injEq] at h
    obtain ⟨rfl, rfl⟩ := numTok_inj l₁ l₂ r₁ r₂ (fun c hc => h₁ c (List.mem_cons_of_mem _ hc))
      (fun c hc => h₂ c (List.mem_cons_of_mem _ hc)) d₁ d₂ h.2
    exact ⟨by rw [h.1], rfl⟩

/-- How a number literal may start (the third clause of `NumOK`). -/
def NumStart (c : Char) : Prop := c = '-' ∨ ('0' ≤ c ∧ c ≤ '9')

instance (c : Char) : Decidable (NumStart c) := by unfold NumStart; infer_instance

theorem num_head {l : List Char} (h : NumOK l) : ∃ c t, l = c :: t ∧ NumStart c := by
  obtain ⟨h1, _, h3⟩ := h
  cases l with
  | nil => exact absurd rfl h1
  | cons c t => exact ⟨c, t, rfl, h3 c rfl⟩

theorem null_list : "null".toList = ['n','u','l','l'] := by decide +kernel
theorem true_list : "true".toList = ['t','r','u','e'] := by decide +kernel
theorem false_list : "false".toList = ['f','a','l','s','e'] := by decide +kernel

/-- The shapes of a value that the first character of its serialisation tells apart. -/
inductive Kind where
  | null | tt | ff | num | str | arr | obj
  deriving DecidableEq

def tag : J → Kind
  | .null => .null | .bool true => .tt | .bool false => .ff | .num _ => .num | .str _ => .str | .arr _ => .arr
  | .obj _ => .obj

/-- The kind of value a serialisation starting with `c` has; `none` when no value starts with `c`. -/
def classify (c : Char) : Option Kind :=
  if c = 'n' then some .null else if c = 't' then some .tt else if c = 'f' then some .ff else if c = '"' then some .str
  else if c = '[' then some .arr else if c = '{' then some .obj else if NumStart c then some .num else none

theorem classify_numStart {c : Char} (h : NumStart c) : classify c = some .num := by
  have h1 : c ≠ 'n' := by rintro rfl; revert h; decide
  have h2 : c ≠ 't' := by rintro rfl; revert h; decide
  have h3 : c ≠ 'f' := by rintro rfl; revert h; decide
  have h4 : c ≠ '"' := by rintro rfl; revert h; decide
  have h5 : c ≠ '[' := by rintro rfl; revert h; decide
  have h6 : c ≠ '{' := by rintro rfl; revert h; decide
  simp [classify, h1, h2, h3, h4, h5, h6, h]

theorem ser_arr (xs : List J) : ser (.arr xs) = '[' :: serList xs ++ [']'] := rfl
theorem ser_obj (kvs : List (List Char × J)) : ser (.obj kvs) = '{' :: serMembers kvs ++ ['}'] := rfl

/-- A serialisation is non-empty and its first character tells the constructor. -/
theorem ser_head : (a : J) → WF a → ∃ c t, ser a = c :: t ∧ classify c = some (tag a)
  | .null, _ => ⟨_, _, null_list, rfl⟩
  | .bool true, _ => ⟨_, _, true_list, rfl⟩
  | .bool false, _ => ⟨_, _, false_list, rfl⟩
  | .num l, hw => by
    obtain ⟨d, t, rfl, hd⟩ := num_head (l := l) hw
    exact ⟨d, t, rfl, classify_numStart hd⟩
  | .str _, _ => ⟨'"', _, rfl, rfl⟩
  | .arr _, _ => ⟨'[', _, rfl, rfl⟩
  | .obj _, _ => ⟨'{', _, rfl, rfl⟩

theorem tag_eq {a b : J} {r₁ r₂ : List Char} (ha : WF a) (hb : WF b) (h : ser a ++ r₁ = ser b ++ r₂) :
    tag a = tag b := by
  obtain ⟨c₁, t₁, e₁, k₁⟩ := ser_head a ha
  obtain ⟨c₂, t₂, e₂, k₂⟩ := ser_head b hb
  rw [e₁, e₂] at h
  exact Option.some.inj (k₁.symm.trans ((congrArg classify (List.cons.inj h).1).trans k₂))

/-- A serialised value does not start with a closing bracket. -/
theorem ser_ne_close {a : J} (ha : WF a) {r t : List Char} {c : Char} (hc : classify c = none)
    (h : ser a ++ r = c :: t) : False := by
  obtain ⟨c', t', e, k⟩ := ser_head a ha
  rw [e] at h
  rw [(List.cons.inj h).1, hc] at k
  cases k

/-- What follows an array element: `]` or `,` and the remaining elements. -/
def ltail (xs : List J) (r : List Char) : List Char :=
  match xs with
  | [] => ']' :: r
  | _ :: _ => ',' :: (serList xs ++ ']' :: r)

theorem serList_cons (x : J) (xs : List J) (r : List Char) :
    serList (x :: xs) ++ ']' :: r = ser x ++ ltail xs r := by
  cases xs <;> simp [serList, ltail]

theorem ltail_delim (xs : List J) (r : List Char) : Delim (ltail xs r) := by
  cases xs with
  | nil => exact delim_rbracket _
  | cons _ _ => exact delim_comma _

theorem ltail_eq {xs ys : List J} {r₁ r₂ : List Char} (h : ltail xs r₁ = ltail ys r₂) :
    serList xs ++ ']' :: r₁ = serList ys ++ ']' :: r₂ := by
  cases xs <;> cases ys <;> simp_all [ltail, serList]

/-- What follows an object member. -/
def mtail (m : List (List Char × J)) (r : List Char) : List Char :=
  match m with
  | [] => '}' :: r
  | _ :: _ => ',' :: (serMembers m ++ '}' :: r)

theorem serMembers_cons (k : List Char) (v : J) (m : List (List Char × J)) (r : List Char) :
    serMembers ((k, v) :: m) ++ '}' :: r = quote k ++ ':' :: (ser v ++ mtail m r) := by
  cases m <;> simp [serMembers, mtail]

theorem mtail_delim (m : List (List Char × J)) (r : List Char) : Delim (mtail m r) := by
  cases m with
  | nil => exact delim_rbrace _
  | cons _ _ => exact delim_comma _

theorem mtail_eq {xs ys : List (List Char × J)} {r₁ r₂ : List Char} (h : mtail xs r₁ = mtail ys r₂) :
    serMembers xs ++ '}' :: r₁ = serMembers ys ++ '}' :: r₂ := by
  cases xs <;> cases ys <;> simp_all [mtail, serMembers]

mutual
  theorem ser_inj : (a b : J) → (r₁ r₂ : List Char) → WF a → WF b → Delim r₁ → Delim r₂ →
      ser a ++ r₁ = ser b ++ r₂ → a = b ∧ r₁ = r₂
    | .null, b, r₁, r₂, ha, hb, _, _, h => by
      have ht := tag_eq ha hb h
      rcases b with _ | (_ | _) | l₂ | s₂ | ys | kvs₂ <;> cases ht
      exact ⟨rfl, List.append_cancel_left h⟩
    | .bool true, b, r₁, r₂, ha, hb, _, _, h => by
      have ht := tag_eq ha hb h
      rcases b with _ | (_ | _) | l₂ | s₂ | ys | kvs₂ <;> cases ht
      exact ⟨rfl, List.append_cancel_left h⟩
    | .bool false, b, r₁, r₂, ha, hb, _, _, h => by
      have ht := tag_eq ha hb h
      rcases b with _ | (_ | _) | l₂ | s₂ | ys | kvs₂ <;> cases ht
      exact ⟨rfl, List.append_cancel_left h⟩
    | .num l, b, r₁, r₂, ha, hb, d₁, d₂, h => by
      have ht := tag_eq ha hb h
      rcases b with _ | (_ | _) | l₂ | s₂ | ys | kvs₂ <;> cases ht
      exact (numTok_inj l l₂ r₁ r₂ (ha : NumOK l).2.1 (hb : NumOK l₂).2.1 d₁ d₂ h).imp (congrArg J.num) id
    | .str s, b, r₁, r₂, ha, hb, _, _, h => by
      have ht := tag_eq ha hb h
      rcases b with _ | (_ | _) | l₂ | s₂ | ys | kvs₂ <;> cases ht
      exact (quote_inj s s₂ r₁ r₂ h).imp (congrArg J.str) id
    | .arr xs, b, r₁, r₂, ha, hb, _, _, h => by
      have ht := tag_eq ha hb h
      rcases b with _ | (_ | _) | l₂ | s₂ | ys | kvs₂ <;> cases ht
      simp only [ser_arr, List.cons_append, List.append_assoc, List.cons.injEq, true_and, List.nil_append] at h
      exact (serList_inj xs ys r₁ r₂ ha hb h).imp (congrArg J.arr) id
    | .obj kvs, b, r₁, r₂, ha, hb, _, _, h => by
      have ht := tag_eq ha hb h
      rcases b with _ | (_ | _) | l₂ | s₂ | ys | kvs₂ <;> cases ht
      simp only [ser_obj, List.cons_append, List.append_assoc, List.cons.injEq, true_and, List.nil_append] at h
      exact (serMembers_inj kvs kvs₂ r₁ r₂ ha hb h).imp (congrArg J.obj) id
  -- no `Delim` needed here or for members: what follows the elements is the `]` (`}`) in the statement
  theorem serList_inj : (xs ys : List J) → (r₁ r₂ : List Char) → WFList xs → WFList ys →
      serList xs ++ ']' :: r₁ = serList ys ++ ']' :: r₂ → xs = ys ∧ r₁ = r₂
    | [], [], r₁, r₂, _, _, h => by simpa [serList] using h
    | [], y :: ys, r₁, r₂, _, hy, h => by
      rw [serList_cons] at h
      simp only [serList, List.nil_append] at h
      exact (ser_ne_close hy.1 (by decide) h.symm).elim
    | x :: xs, [], r₁, r₂, hx, _, h => by
      rw [serList_cons] at h
      simp only [serList, List.nil_append] at h
      exact (ser_ne_close hx.1 (by decide) h).elim
    | x :: xs, y :: ys, r₁, r₂, hx, hy, h => by
      rw [serList_cons, serList_cons] at h
      obtain ⟨rfl, ht⟩ := ser_inj x y _ _ hx.1 hy.1 (ltail_delim _ _) (ltail_delim _ _) h
      obtain ⟨rfl, rfl⟩ := serList_inj xs ys r₁ r₂ hx.2 hy.2 (ltail_eq ht)
      exact ⟨rfl, rfl⟩
  theorem serMembers_inj : (xs ys : List (List Char × J)) → (r₁ r₂ : List Char) → WFMembers xs → WFMembers ys →
      serMembers xs ++ '}' :: r₁ = serMembers ys ++ '}' :: r₂ → xs = ys ∧ r₁ = r₂
    | [], [], r₁, r₂, _, _, h => by simpa [serMembers] using h
    | [], (k, y) :: ys, r₁, r₂, _, _, h => by
      rw [serMembers_cons] at h
      simp [serMembers, quote] at h
    | (k, x) :: xs, [], r₁, r₂, _, _, h => by
      rw [serMembers_cons] at h
      simp [serMembers, quote] at h
    | (k₁, x) :: xs, (k₂, y) :: ys, r₁, r₂, hx, hy, h => by
      rw [serMembers_cons, serMembers_cons] at h
      obtain ⟨rfl, h'⟩ := quote_inj _ _ _ _ h
      simp only [List.cons.injEq, true_and] at h'
      obtain ⟨rfl, ht⟩ := ser_inj x y _ _ hx.1 hy.1 (mtail_delim _ _) (mtail_delim _ _) h'
      obtain ⟨rfl, rfl⟩ := serMembers_inj xs ys r₁ r₂ hx.2 hy.2 (mtail_eq ht)
      exact ⟨rfl, rfl⟩
end

theorem ser_injective (a b : J) (ha : WF a) (hb : WF b) (h : ser a = ser b) : a = b :=
  (ser_inj a b [] [] ha hb delim_nil delim_nil (by simpa using h)).1

/-! ## 3. `canon` and `Equiv` -/

theorem insertMember_perm (kv : List Char × J) : (l : List (List Char × J)) → (insertMember kv l).Perm (kv :: l)
  | [] => .refl _
  | m :: r => by
    unfold insertMember
    split
    · exact ((insertMember_perm kv r).cons m).trans (.swap _ _ _)
    · exact .refl _

theorem sortMembers_perm : (l : List (List Char × J)) → (sortMembers l).Perm l
  | [] => .refl _
  | kv :: r => (insertMember_perm kv _).trans ((sortMembers_perm r).cons kv)

theorem wfList_iff : (l : List J) → (WFList l ↔ ∀ x ∈ l, WF x)
  | [] => by simp [WFList]
  | x :: r => by simp [WFList, wfList_iff r]

theorem wfMembers_iff : (l : List (List Char × J)) → (WFMembers l ↔ ∀ p ∈ l, WF p.2)
  | [] => by simp [WFMembers]
  | (k, v) :: r => by simp [WFMembers, wfMembers_iff r]

theorem canonList_eq : (l : List J) → canonList l = l.map canon
  | [] => rfl
  | x :: r => by simp [canonList, canonList_eq r]

theorem canonMembers_eq : (l : List (List Char × J)) → canonMembers l = l.map (fun p => (p.1, canon p.2))
  | [] => rfl
  | (k, v) :: r => by simp [canonMembers, canonMembers_eq r]

mutual
  theorem canon_wf : (a : J) → WF a → WF (canon a)
    | .null, h => h
    | .bool _, h => h
    | .num _, h => h
    | .str _, h => h
    | .arr xs, h => canonList_wf xs h
    | .obj kvs, h =>
      (wfMembers_iff _).2 fun p hp =>
        (wfMembers_iff _).1 (canonMembers_wf kvs h) p ((sortMembers_perm _).mem_iff.1 hp)
  theorem canonList_wf : (xs : List J) → WFList xs → WFList (canonList xs)
    | [], _ => trivial
    | x :: r, h => ⟨canon_wf x h.1, canonList_wf r h.2⟩
  theorem canonMembers_wf : (kvs : List (List Char × J)) → WFMembers kvs → WFMembers (canonMembers kvs)
    | [], _ => trivial
    | (_, v) :: r, h => ⟨canon_wf v h.1, canonMembers_wf r h.2⟩
end

section Forall₂
variable {α : Type}
open List

theorem forall₂_refl {R : α → α → Prop} : (xs : List α) → (∀ x ∈ xs, R x x) → Forall₂ R xs xs
  | [], _ => .nil
  | x :: r, h => .cons (h x (by simp)) (forall₂_refl r fun y hy => h y (List.mem_cons_of_mem _ hy))

theorem forall₂_append {β : Type} {R : α → β → Prop} {xs₁ xs₂ : List α} {ys₁ ys₂ : List β}
    (h₁ : Forall₂ R xs₁ ys₁) (h₂ : Forall₂ R xs₂ ys₂) : Forall₂ R (xs₁ ++ xs₂) (ys₁ ++ ys₂) := by
  induction h₁ with
  | nil => exact h₂
  | cons h _ ih => exact .cons h ih

end Forall₂

mutual
  theorem equiv_refl : (a : J) → Equiv a a
    | .null => .null
    | .bool _ => .bool _
    | .num _ => .num _
    | .str _ => .str _
    | .arr xs => .arr (equivList_refl xs)
    | .obj kvs => .obj (.refl _) (equivMembers_refl kvs)
  theorem equivList_refl : (xs : List J) → EquivList xs xs
    | [] => .nil
    | x :: r => .cons (equiv_refl x) (equivList_refl r)
  theorem equivMembers_refl : (kvs : List (List Char × J)) → EquivMembers kvs kvs
    | [] => .nil
    | (_, v) :: r => .cons (equiv_refl v) (equivMembers_refl r)
end

/-- A permutation of the right-hand members can be moved to the left: on objects, `Equiv` is
    "permute, then relate memberwise", and the two steps commute. -/
theorem equivMembers_perm {ys ys' : List (List Char × J)} (hp : ys.Perm ys') :
    ∀ {xs}, EquivMembers xs ys → ∃ xs', xs.Perm xs' ∧ EquivMembers xs' ys' := by
  induction hp with
  | nil => exact fun h => ⟨_, .refl _, h⟩
  | cons _ _ ih =>
    intro _ h
    cases h with
    | cons h1 h2 =>
      obtain ⟨_, p, f⟩ := ih h2
      exact ⟨_, p.cons _, .cons h1 f⟩
  | swap =>
    intro _ h
    cases h with
    | cons h1 h2 =>
      cases h2 with
      | cons h3 h4 => exact ⟨_, .swap _ _ _, .cons h3 (.cons h1 h4)⟩
  | trans _ _ ih1 ih2 =>
    intro _ h
    obtain ⟨_, p, f⟩ := ih1 h
    obtain ⟨_, p', f'⟩ := ih2 f
    exact ⟨_, p.trans p', f'⟩

/-- `induction` does not take the mutual predicates `Equiv`/`EquivList`/`EquivMembers`, so this and the two
    other inductions on a derivation apply `Equiv.rec` directly: one motive per predicate, then one premise per
    constructor in the order of the declaration — `null`, `bool`, `num`, `str`, `arr`, `obj`; `nil`, `cons` of
    `EquivList`; `nil`, `cons` of `EquivMembers`. -/
theorem equiv_symm {a b : J} (h : Equiv a b) : Equiv b a :=
  Equiv.rec (motive_1 := fun a b _ => Equiv b a) (motive_2 := fun xs ys _ => EquivList ys xs)
    (motive_3 := fun xs ys _ => EquivMembers ys xs)
    .null .bool .num .str (fun _ ih => .arr ih)
    (fun hp _ ih => let ⟨_, p, f⟩ := equivMembers_perm hp.symm ih; .obj p f)
    .nil (fun _ _ ih₁ ih₂ => .cons ih₁ ih₂) .nil (fun _ _ ih₁ ih₂ => .cons ih₁ ih₂) h

-- `equiv_symm` at a member of an array, of an object
theorem equiv_symm_list : (xs : List J) → ∀ x ∈ xs, ∀ b, Equiv x b → Equiv b x :=
  fun _ _ _ _ => equiv_symm

theorem equiv_symm_members : (kvs : List (List Char × J)) → ∀ p ∈ kvs, ∀ b, Equiv p.2 b → Equiv b p.2 :=
  fun _ _ _ _ => equiv_symm

/-- By induction on the second derivation, so that its permutation is the one to move. -/
theorem equiv_trans {a b c : J} (h₁ : Equiv a b) (h₂ : Equiv b c) : Equiv a c :=
  Equiv.rec (motive_1 := fun b c _ => ∀ a, Equiv a b → Equiv a c)
    (motive_2 := fun ys zs _ => ∀ xs, EquivList xs ys → EquivList xs zs)
    (motive_3 := fun ys zs _ => ∀ xs, EquivMembers xs ys → EquivMembers xs zs)
    (fun _ h => h) (fun _ _ h => h) (fun _ _ h => h) (fun _ _ h => h)
    (fun _ ih _ h => by
      cases h with
      | arr hl => exact .arr (ih _ hl))
    (fun hp _ ih _ h => by
      cases h with
      | obj hp₁ hm₁ =>
        obtain ⟨_, q, f⟩ := equivMembers_perm hp hm₁
        exact .obj (hp₁.trans q) (ih _ f))
    (fun _ h => h)
    (fun _ _ ih₁ ih₂ _ h => by
      cases h with
      | cons h1 h2 => exact .cons (ih₁ _ h1) (ih₂ _ h2))
    (fun _ h => h)
    (fun _ _ ih₁ ih₂ _ h => by
      cases h with
      | cons h1 h2 => exact .cons (ih₁ _ h1) (ih₂ _ h2))
    h₂ a h₁

-- `equiv_trans` at a member of an array, of an object
theorem equiv_trans_list : (xs : List J) → ∀ x ∈ xs, ∀ b c, Equiv x b → Equiv b c → Equiv x c :=
  fun _ _ _ _ _ => equiv_trans

theorem equiv_trans_members : (kvs : List (List Char × J)) → ∀ p ∈ kvs, ∀ b c, Equiv p.2 b → Equiv b c → Equiv p.2 c :=
  fun _ _ _ _ _ => equiv_trans

mutual
  theorem equiv_canon : (a : J) → Equiv a (canon a)
    | .null => .null
    | .bool _ => .bool _
    | .num _ => .num _
    | .str _ => .str _
    | .arr xs => by rw [canon]; exact .arr (equivList_canon xs)
    | .obj kvs => by
      rw [canon]
      obtain ⟨_, p, f⟩ := equivMembers_perm (sortMembers_perm (canonMembers kvs)).symm (equivMembers_canon kvs)
      exact .obj p f
  theorem equivList_canon : (xs : List J) → EquivList xs (canonList xs)
    | [] => .nil
    | x :: r => .cons (equiv_canon x) (equivList_canon r)
  theorem equivMembers_canon : (kvs : List (List Char × J)) → EquivMembers kvs (canonMembers kvs)
    | [] => .nil
    | (_, v) :: r => .cons (equiv_canon v) (equivMembers_canon r)
end

theorem jcs_injective (a b : J) (ha : WF a) (hb : WF b) (h : jcs a = jcs b) : Equiv a b := by
  have hc : canon a = canon b := ser_injective _ _ (canon_wf a ha) (canon_wf b hb) h
  have h1 := equiv_canon a
  rw [hc] at h1
  exact equiv_trans h1 (equiv_symm (equiv_canon b))

/-! ## 4. Canonical order -/

theorem char_range (c : Char) : c.toNat < 55296 ∨ (57343 < c.toNat ∧ c.toNat < 1114112) := by
  have := c.valid
  unfold UInt32.isValidChar Nat.isValidChar at this
  exact this

/-- Reads one code point off the front of a UTF-16 sequence. -/
def unutf16 : List Nat → Option (Char × List Nat)
  | [] => none
  | a :: r =>
    if a < 0xD800 ∨ 0xDFFF < a then some (Char.ofNat a, r)
    else match r with
      | b :: r' => some (Char.ofNat (0x10000 + ((a - 0xD800) * 0x400 + (b - 0xDC00))), r')
      | [] => none

/-- UTF-16 is uniquely decodable: a lone unit lies outside the surrogate range, a leading one inside. -/
theorem unutf16_utf16 (c : Char) (x : List Nat) : unutf16 (utf16 c ++ x) = some (c, x) := by
  have hr := char_range c
  rw [utf16]
  by_cases h : c.toNat < 0x10000
  · simp only [if_pos h]
    show (if c.toNat < 0xD800 ∨ 0xDFFF < c.toNat then some (Char.ofNat c.toNat, x) else _) = _
    rw [if_pos (by omega), Char.ofNat_toNat]
  · simp only [if_neg h]
    generalize hm : c.toNat - 0x10000 = m
    have hd : m / 0x400 < 0x400 := Nat.div_lt_of_lt_mul (by omega)
    show (if 0xD800 + m / 0x400 < 0xD800 ∨ 0xDFFF < 0xD800 + m / 0x400 then _
      else some (Char.ofNat (0x10000 + ((0xD800 + m / 0x400 - 0xD800) * 0x400 + (0xDC00 + m % 0x400 - 0xDC00))), x)) = _
    rw [if_neg (by omega), Nat.add_sub_cancel_left, Nat.add_sub_cancel_left, Nat.mul_comm, Nat.div_add_mod, ← hm,
      Nat.add_sub_cancel' (Nat.le_of_not_lt h), Char.ofNat_toNat]

theorem utf16_inj (c₁ c₂ : Char) (x₁ x₂ : List Nat) (h : utf16 c₁ ++ x₁ = utf16 c₂ ++ x₂) :
    c₁ = c₂ ∧ x₁ = x₂ :=
  Prod.mk.inj (Option.some.inj
    ((unutf16_utf16 c₁ x₁).symm.trans ((congrArg unutf16 h).trans (unutf16_utf16 c₂ x₂))))

theorem utf16s_inj : (s₁ s₂ : List Char) → utf16s s₁ = utf16s s₂ → s₁ = s₂
  | [], [], _ => rfl
  | [], c :: s, h => nomatch (show none = some (c, utf16s s) from (congrArg unutf16 h).trans (unutf16_utf16 c _))
  | c :: s, [], h => nomatch (show some (c, utf16s s) = none from (unutf16_utf16 c _).symm.trans (congrArg unutf16 h))
  | c₁ :: s₁, c₂ :: s₂, h => by
    obtain ⟨rfl, h'⟩ := utf16_inj c₁ c₂ (utf16s s₁) (utf16s s₂) h
    rw [utf16s_inj s₁ s₂ h']

theorem natListLt_iff : (a b : List Nat) → (natListLt a b = true ↔ a < b)
  | [], [] => by simp [natListLt]
  | [], _ :: _ => by simp [natListLt]
  | _ :: _, [] => by simp [natListLt]
  | x :: a, y :: b => by
    rw [natListLt, List.cons_lt_cons_iff, ← natListLt_iff a b]
    rcases Nat.lt_trichotomy x y with h | rfl | h
    · simp [h]
    · simp
    · simp [h, Nat.lt_asymm h, Nat.ne_of_gt h]

/-- `keyLe` is the lexicographic order on UTF-16 code units. -/
theorem keyLe_iff (a b : List Char) : keyLe a b = true ↔ utf16s a ≤ utf16s b := by
  rw [keyLe, Bool.not_eq_true', ← Bool.not_eq_true, natListLt_iff, List.not_lt]

theorem keyLe_total {a b : List Char} (h : keyLe a b = false) : keyLe b a = true := by
  rw [← Bool.not_eq_true, keyLe_iff] at h
  exact (keyLe_iff b a).2 ((List.le_total _ _).resolve_left h)

theorem keyLe_trans {a b c : List Char} (h₁ : keyLe a b = true) (h₂ : keyLe b c = true) : keyLe a c = true :=
  (keyLe_iff a c).2 (List.le_trans ((keyLe_iff a b).1 h₁) ((keyLe_iff b c).1 h₂))

theorem keyLe_antisymm {a b : List Char} (h₁ : keyLe a b = true) (h₂ : keyLe b a = true) : a = b :=
  utf16s_inj _ _ (List.le_antisymm ((keyLe_iff a b).1 h₁) ((keyLe_iff b a).1 h₂))

def KeyLeSorted (l : List (List Char × J)) : Prop := l.Pairwise (fun p q => keyLe p.1 q.1 = true)

theorem insertMember_sorted (kv : List Char × J) : (l : List (List Char × J)) → KeyLeSorted l →
    KeyLeSorted (insertMember kv l)
  | [], _ => by simp [insertMember, KeyLeSorted]
  | m :: r, h => by
    unfold KeyLeSorted at h
    rw [List.pairwise_cons] at h
    unfold insertMember
    split
    · rename_i hle
      unfold KeyLeSorted
      rw [List.pairwise_cons]
      refine ⟨fun q hq => ?_, insertMember_sorted kv r h.2⟩
      rcases List.mem_cons.1 ((insertMember_perm kv r).mem_iff.1 hq) with rfl | hq'
      · exact hle
      · exact h.1 q hq'
    · rename_i hle
      have hle' : keyLe kv.1 m.1 = true := keyLe_total (by simpa using hle)
      unfold KeyLeSorted
      rw [List.pairwise_cons, List.pairwise_cons]
      refine ⟨fun q hq => ?_, h⟩
      rcases List.mem_cons.1 hq with rfl | hq'
      · exact hle'
      · exact keyLe_trans hle' (h.1 q hq')

theorem sortMembers_sorted : (l : List (List Char × J)) → KeyLeSorted (sortMembers l)
  | [] => by simp [sortMembers, KeyLeSorted]
  | kv :: r => insertMember_sorted kv _ (sortMembers_sorted r)

theorem eq_of_key_eq {l : List (List Char × J)} (hn : (l.map (·.1)).Nodup) :
    ∀ {p q : List Char × J}, p ∈ l → q ∈ l → p.1 = q.1 → p = q := by
  induction l with
  | nil => intro p q hp; cases hp
  | cons m r ih =>
    simp only [List.map_cons, List.nodup_cons, List.mem_map, not_exists, not_and] at hn
    intro p q hp hq e
    rcases List.mem_cons.1 hp with rfl | hp' <;> rcases List.mem_cons.1 hq with rfl | hq'
    · rfl
    · exact absurd e.symm (hn.1 q hq')
    · exact absurd e (hn.1 p hp')
    · exact ih hn.2 hp' hq' e

/-- A linear order has one sorted arrangement of members with distinct keys. -/
theorem sortMembers_eq_of_perm {l₁ l₂ : List (List Char × J)} (hp : l₁.Perm l₂) (hn : (l₁.map (·.1)).Nodup) :
    sortMembers l₁ = sortMembers l₂ := by
  have p : (sortMembers l₁).Perm (sortMembers l₂) :=
    (sortMembers_perm l₁).trans (hp.trans (sortMembers_perm l₂).symm)
  refine List.Perm.eq_of_pairwise ?_ (sortMembers_sorted l₁) (sortMembers_sorted l₂) p
  intro a b ha hb h1 h2
  have ha' : a ∈ l₁ := (sortMembers_perm l₁).mem_iff.1 ha
  have hb' : b ∈ l₁ := hp.mem_iff.2 ((sortMembers_perm l₂).mem_iff.1 hb)
  exact eq_of_key_eq hn ha' hb' (keyLe_antisymm h1 h2)

theorem keysDistinctList_iff : (l : List J) → (KeysDistinctList l ↔ ∀ x ∈ l, KeysDistinct x)
  | [] => by simp [KeysDistinctList]
  | x :: r => by simp [KeysDistinctList, keysDistinctList_iff r]

theorem keysDistinctMembers_iff : (l : List (List Char × J)) → (KeysDistinctMembers l ↔ ∀ p ∈ l, KeysDistinct p.2)
  | [] => by simp [KeysDistinctMembers]
  | (k, v) :: r => by simp [KeysDistinctMembers, keysDistinctMembers_iff r]

theorem canonMembers_keys (l : List (List Char × J)) : (canonMembers l).map (·.1) = l.map (·.1) := by
  rw [canonMembers_eq]; simp [Function.comp_def]

theorem canon_congr {a b : J} (h : Equiv a b) : KeysDistinct a → canon a = canon b :=
  Equiv.rec (motive_1 := fun a b _ => KeysDistinct a → canon a = canon b)
    (motive_2 := fun xs ys _ => KeysDistinctList xs → canonList xs = canonList ys)
    (motive_3 := fun xs ys _ => KeysDistinctMembers xs → canonMembers xs = canonMembers ys)
    (fun _ => rfl) (fun _ _ => rfl) (fun _ _ => rfl) (fun _ _ => rfl)
    (fun _ ih hk => congrArg J.arr (ih hk))
    (fun {kvs _ mid} hp _ ih (hk : _ ∧ KeysDistinctMembers kvs) => by
      have hk' : KeysDistinctMembers mid :=
        (keysDistinctMembers_iff mid).2 fun p hp' => (keysDistinctMembers_iff kvs).1 hk.2 p (hp.mem_iff.2 hp')
      rw [canon, canon, ← ih hk']
      congr 1
      apply sortMembers_eq_of_perm
      · rw [canonMembers_eq, canonMembers_eq]; exact hp.map _
      · rw [canonMembers_keys]; exact hk.1)
    (fun _ => rfl)
    (fun _ _ ih₁ ih₂ hk => by rw [canonList, canonList, ih₁ hk.1, ih₂ hk.2])
    (fun _ => rfl)
    (fun _ _ ih₁ ih₂ hk => by rw [canonMembers, canonMembers, ih₁ hk.1, ih₂ hk.2])
    h

-- `canon_congr` at a member of an array, of an object
theorem canon_congr_list : (xs : List J) → ∀ x ∈ xs, ∀ b, KeysDistinct x → Equiv x b → canon x = canon b :=
  fun _ _ _ _ hk h => canon_congr h hk

theorem canon_congr_members : (kvs : List (List Char × J)) → ∀ p ∈ kvs, ∀ b, KeysDistinct p.2 → Equiv p.2 b →
      canon p.2 = canon b :=
  fun _ _ _ _ hk h => canon_congr h hk

theorem jcs_order_insensitive (a b : J) (hka : KeysDistinct a) (h : Equiv a b) : jcs a = jcs b := by
  unfold jcs; rw [canon_congr h hka]

/-! ## 5. Inversion of `Equiv` -/

theorem equiv_str_inv {s t : List Char} (h : Equiv (.str s) (.str t)) : s = t := by
  cases h; rfl

theorem equivMembers_mem : (xs : List (List Char × J)) → {ys : List (List Char × J)} → EquivMembers xs ys →
    ∀ p ∈ xs, ∃ q ∈ ys, p.1 = q.1 ∧ Equiv p.2 q.2
  | [], _, _, _, hp => nomatch hp
  | _ :: xs, _, .cons h hm, p, hp => by
    rcases List.mem_cons.1 hp with rfl | hp
    · exact ⟨_, List.mem_cons_self, rfl, h⟩
    · obtain ⟨q, hq, e⟩ := equivMembers_mem xs hm p hp
      exact ⟨q, List.mem_cons_of_mem _ hq, e⟩

theorem equiv_obj_mem_left {kvs kvs' : List (List Char × J)} (h : Equiv (.obj kvs) (.obj kvs')) :
    ∀ p ∈ kvs, ∃ q ∈ kvs', p.1 = q.1 ∧ Equiv p.2 q.2 := by
  cases h with
  | obj hp hm => exact fun p hpm => equivMembers_mem _ hm p (hp.mem_iff.1 hpm)

theorem equiv_obj_mem_right {kvs kvs' : List (List Char × J)} (h : Equiv (.obj kvs) (.obj kvs')) :
    ∀ q ∈ kvs', ∃ p ∈ kvs, p.1 = q.1 ∧ Equiv p.2 q.2 := by
  intro q hq
  obtain ⟨p, hp, e, h'⟩ := equiv_obj_mem_left (equiv_symm h) q hq
  exact ⟨p, hp, e.symm, equiv_symm h'⟩

end GoPipeline.Jcs
