/-
  C11 — `validate` (the mirror of `(*Matrix).validatePermutation`) accepts exactly when the matrix
  specification `accept` does, and the verdict is independent of map iteration order.

  The early-exit scans `firstErr` / `allMatch` are characterised order-free (`∀ x ∈ l, …`) and
  `adjLoop` one round at a time; the code's zero-value comparison `e.2 == withGet adj e.1` is the
  specification's `lookup = some` by a pigeonhole argument on the key lists; order independence is
  `validate_iff` on both sides plus the transport of `accept` and `WF` along permutations.
-/
import GoPipeline.Model.MatrixValidate
import Batteries.Data.List.Basic  -- `List.Forall₂`
import Batteries.Data.List.Perm   -- `List.subperm_of_subset`, `List.Subperm.perm_of_length_le`
namespace GoPipeline.MatrixV

theorem firstErr_ok_iff {α : Type} (l : List α) (bad : α → Bool) (e : Err) :
    firstErr l bad e = .ok () ↔ ∀ x ∈ l, bad x = false := by
  induction l with
  | nil => simp [firstErr]
  | cons x r ih =>
    simp only [firstErr, List.mem_cons, forall_eq_or_imp]
    cases h : bad x <;> simp [ih]

theorem allMatch_iff {α : Type} (l : List α) (good : α → Bool) :
    allMatch l good = true ↔ ∀ x ∈ l, good x = true := by
  induction l with
  | nil => simp [allMatch]
  | cons x r ih =>
    simp only [allMatch, List.mem_cons, forall_eq_or_imp]
    cases h : good x <;> simp [ih]

theorem lookup_eq_none_iff_keys {V : Type} (l : List (String × V)) (k : String) :
    l.lookup k = none ↔ k ∉ keys l := by
  rw [List.lookup_eq_none_iff, keys, List.mem_map]
  exact ⟨fun h ⟨p, hp, e⟩ => bne_iff_ne.1 (h p hp) e.symm,
    fun h p hp => bne_iff_ne.2 fun e => h ⟨p, hp, e.symm⟩⟩

theorem lookup_eq_some_iff {V : Type} {l : List (String × V)} (h : (keys l).Nodup)
    (k : String) (v : V) : l.lookup k = some v ↔ (k, v) ∈ l := by
  induction l with
  | nil => simp
  | cons p r ih =>
    obtain ⟨a, b⟩ := p
    simp only [keys, List.map_cons, List.nodup_cons] at h
    by_cases hk : k = a
    · subst hk
      have : ∀ v, (k, v) ∉ r := fun v hm => h.1 (List.mem_map_of_mem (f := (·.1)) hm)
      simp only [List.lookup_cons, beq_self_eq_true, Option.some.injEq, List.mem_cons,
        Prod.mk.injEq, true_and, this, or_false]
      exact eq_comm
    · have h' : (k == a) = false := by simpa using hk
      simp [List.lookup_cons, h', hk, ih h.2]

theorem mem_keys_perm {V : Type} {l l' : List (String × V)} (hp : l'.Perm l) (k : String) :
    k ∈ keys l' ↔ k ∈ keys l := (hp.map (fun x : String × V => x.1)).mem_iff

theorem nodup_keys_perm {V : Type} {l l' : List (String × V)} (hp : l'.Perm l) :
    (keys l').Nodup ↔ (keys l).Nodup := (hp.map (fun x : String × V => x.1)).nodup_iff

theorem lookup_perm {V : Type} {l l' : List (String × V)} (hp : l'.Perm l)
    (h : (keys l).Nodup) (k : String) : l'.lookup k = l.lookup k := by
  apply Option.ext
  intro v
  rw [lookup_eq_some_iff ((nodup_keys_perm hp).2 h), lookup_eq_some_iff h, hp.mem_iff]

theorem mem_keys_of_setupGet {m : Matrix} {d : String} (h : setupGet m d ≠ none) :
    d ∈ keys m.setup :=
  Classical.not_not.1 fun hn => h (by simp [setupGet, (lookup_eq_none_iff_keys m.setup d).2 hn])

/-- Pigeonhole. -/
theorem subset_of_nodup_of_length_le {ks ds : List String} (hnd : ks.Nodup) (hsub : ks ⊆ ds)
    (hlen : ds.length ≤ ks.length) : ds ⊆ ks :=
  ((List.subperm_of_subset hnd hsub).perm_of_length_le hlen).symm.subset

theorem firstErr_dims_iff {V : Type} (m : Matrix) (l : List (String × V)) (e : Err) :
    firstErr l (fun x => (setupGet m x.1).isNone) e = .ok () ↔
      ∀ d ∈ keys l, setupGet m d ≠ none := by
  rw [firstErr_ok_iff, keys, List.forall_mem_map]
  exact forall₂_congr fun x _ => by cases setupGet m x.1 <;> simp

/-- "The permutation equals the adjustment's tuple", as `adjLoop` tests it (written inline there). -/
def matchB (p : List (String × String)) (a : Adj) : Bool :=
  allMatch p (fun e => e.2 == withGet a e.1)

/-- "The permutation is a combination of setup values", the flag `validate` starts `adjLoop`
    with (written inline there). -/
def combB (m : Matrix) (p : List (String × String)) : Bool :=
  allMatch p (fun e => ((setupGet m e.1).getD []).contains e.2)

theorem combB_iff (m : Matrix) (p : List (String × String)) :
    combB m p = true ↔ isCombination m p := by
  rw [combB, allMatch_iff]
  exact forall₂_congr fun e _ => by cases setupGet m e.1 <;> simp

/-- The zero-value comparison `e.2 == withGet a e.1` is the specification's `lookup = some`: the
    adjustment's keys cover the setup's dimensions (pigeonhole) and the permutation's keys are
    among those, so no lookup misses. -/
theorem matchB_iff {m : Matrix} {a : Adj} {p : List (String × String)}
    (hp : namesEachDimOnce m p) (ha : adjWellFormed m a) (da : (keys a.with_).Nodup) :
    matchB p a = true ↔ adjEquals a p := by
  rw [matchB, allMatch_iff]
  refine forall₂_congr fun e he => ?_
  have h2 : e.1 ∈ keys a.with_ :=
    subset_of_nodup_of_length_le da (fun _ h => mem_keys_of_setupGet (ha.2 _ h))
      (by simp [keys, ha.1])
      (mem_keys_of_setupGet (hp.2 _ (List.mem_map_of_mem (f := (·.1)) he)))
  cases hl : a.with_.lookup e.1 with
  | none => exact absurd h2 ((lookup_eq_none_iff_keys _ _).1 hl)
  | some v =>
    simp only [withGet, hl, Option.getD_some, beq_iff_eq, Option.some.injEq]
    exact eq_comm

theorem adjLoop_cons_ok_iff (m : Matrix) (p : List (String × String)) (x : Option Adj)
    (rest : List (Option Adj)) (valid v : Bool) :
    adjLoop m p (x :: rest) valid = .ok v ↔
      ∃ a, x = some a ∧ adjWellFormed m a ∧ (matchB p a = true → shouldSkip a.skip = false) ∧
        adjLoop m p rest (valid || matchB p a) = .ok v := by
  cases x with
  | none => simp [adjLoop]
  | some a =>
    simp only [Option.some.injEq, exists_eq_left']
    rw [adjLoop, adjWellFormed, ← firstErr_dims_iff m a.with_ .adjUnknownDim, matchB]
    generalize adjLoop m p rest = k
    by_cases hlen : a.with_.length = m.setup.length
    · cases hfe : firstErr a.with_ (fun e => (setupGet m e.1).isNone) .adjUnknownDim with
      | error e => simp [hlen]
      | ok u =>
        cases hm : allMatch p (fun e => e.2 == withGet a e.1) with
        | false => simp [hlen]
        | true => cases hs : shouldSkip a.skip <;> simp [hlen]
    · simp [hlen]

theorem adjLoop_ok_iff (m : Matrix) (p : List (String × String)) (adjs : List (Option Adj))
    (valid v : Bool) :
    adjLoop m p adjs valid = .ok v ↔
      (∀ x ∈ adjs, ∃ a, x = some a ∧ adjWellFormed m a) ∧
      v = (valid || adjs.any (fun x => x.any (matchB p))) ∧
      (∀ a, some a ∈ adjs → matchB p a = true → shouldSkip a.skip = false) := by
  induction adjs generalizing valid with
  | nil =>
    simp only [adjLoop, Except.ok.injEq, List.not_mem_nil, false_implies, implies_true,
      List.any_nil, Bool.or_false, true_and, and_true]
    exact eq_comm
  | cons x rest ih =>
    rw [adjLoop_cons_ok_iff, List.forall_mem_cons]
    cases x with
    | none => simp only [reduceCtorEq, false_and, exists_false]
    | some a =>
      simp only [Option.some.injEq, exists_eq_left', ih, List.mem_cons, forall_eq_or_imp,
        List.any_cons, Option.any_some, Bool.or_assoc]
      exact ⟨fun ⟨w, s, a, e, b⟩ => ⟨⟨w, a⟩, e, s, b⟩, fun ⟨⟨w, a⟩, e, s, b⟩ => ⟨w, s, a, e, b⟩⟩

theorem validate_none_iff (p : List (String × String)) : validate none p = .ok () ↔ p = [] := by
  cases p <;> simp [validate]

theorem validate_some_iff (m : Matrix) (p : List (String × String)) :
    validate (some m) p = .ok () ↔
      namesEachDimOnce m p ∧ adjLoop m p m.adjustments (combB m p) = .ok true := by
  rw [namesEachDimOnce, ← firstErr_dims_iff m p .permUnknownDim, combB, validate]
  by_cases hlen : p.length = m.setup.length
  · simp only [hlen, bne_self_eq_false, Bool.false_eq_true, ↓reduceIte, true_and]
    cases hfe : firstErr p (fun e => (setupGet m e.1).isNone) .permUnknownDim with
    | error e => simp
    | ok u =>
      simp only [true_and]
      split
      next e h => rw [h]; simp
      next valid h => rw [h]; cases valid <;> simp
  · have : (p.length != m.setup.length) = true := by simpa using hlen
    simp [this, hlen]

theorem accept.adjs_wf {m : Matrix} {p : List (String × String)} (h : accept (some m) p) :
    ∀ x ∈ m.adjustments, ∃ a, x = some a ∧ adjWellFormed m a := h.2.1

theorem accept.not_skipped {m : Matrix} {p : List (String × String)} (h : accept (some m) p)
    {a : Adj} (ha : some a ∈ m.adjustments) (he : adjEquals a p) : shouldSkip a.skip = false :=
  h.2.2.2 a ha he

theorem validate_iff (m : Option Matrix) (p : List (String × String)) (wf : WF m p) :
    validate m p = .ok () ↔ accept m p := by
  cases m with
  | none => exact validate_none_iff p
  | some m =>
    rw [validate_some_iff, adjLoop_ok_iff, accept]
    apply and_congr_right; intro hN
    apply and_congr_right; intro hW
    have hmatch : ∀ a, some a ∈ m.adjustments → (matchB p a = true ↔ adjEquals a p) := by
      intro a ha
      obtain ⟨a', e, hw⟩ := hW (some a) ha
      cases e
      exact matchB_iff hN hw (wf.adjKeys m rfl a ha)
    apply and_congr
    · rw [eq_comm, Bool.or_eq_true, combB_iff, List.any_eq_true]
      apply or_congr Iff.rfl
      constructor
      · rintro ⟨x, hx, h⟩
        cases x with
        | none => simp at h
        | some a => exact ⟨a, hx, (hmatch a hx).1 (by simpa using h)⟩
      · rintro ⟨a, ha, h⟩; exact ⟨some a, ha, by simpa using (hmatch a ha).2 h⟩
    · apply forall_congr'; intro a
      apply forall_congr'; intro ha
      rw [hmatch a ha]

/-- Corresponding adjustment entries are both null, or both present with permuted tuples and the
    same `skip`.  `C11_order_independent` writes this `match` out in its hypothesis; the two are
    definitionally equal, which is how `accept_perm` and `wf_perm` apply there. -/
def AdjRel : Option Adj → Option Adj → Prop := fun x' x => match x', x with
  | some a', some a => a'.with_.Perm a.with_ ∧ a'.skip = a.skip
  | none, none => True
  | _, _ => False

theorem setupGet_perm {m m' : Matrix} (hs : m'.setup.Perm m.setup) (d : (keys m.setup).Nodup)
    (k : String) : setupGet m' k = setupGet m k := by
  unfold setupGet; rw [lookup_perm hs d]

theorem namesEachDimOnce_perm {m m' : Matrix} {p p' : List (String × String)}
    (hp : p'.Perm p) (hs : m'.setup.Perm m.setup) (d : (keys m.setup).Nodup) :
    namesEachDimOnce m' p' ↔ namesEachDimOnce m p := by
  unfold namesEachDimOnce
  rw [hp.length_eq, hs.length_eq]
  apply and_congr_right; intro _
  apply forall_congr'; intro k
  rw [mem_keys_perm hp, setupGet_perm hs d]

theorem adjWellFormed_perm {m m' : Matrix} {a a' : Adj}
    (ha : a'.with_.Perm a.with_) (hs : m'.setup.Perm m.setup) (d : (keys m.setup).Nodup) :
    adjWellFormed m' a' ↔ adjWellFormed m a := by
  unfold adjWellFormed
  rw [ha.length_eq, hs.length_eq]
  apply and_congr_right; intro _
  apply forall_congr'; intro k
  rw [mem_keys_perm ha, setupGet_perm hs d]

theorem isCombination_perm {m m' : Matrix} {p p' : List (String × String)}
    (hp : p'.Perm p) (hs : m'.setup.Perm m.setup) (d : (keys m.setup).Nodup) :
    isCombination m' p' ↔ isCombination m p := by
  unfold isCombination
  apply forall_congr'; intro e
  rw [hp.mem_iff, setupGet_perm hs d]

theorem adjEquals_perm {a a' : Adj} {p p' : List (String × String)}
    (hp : p'.Perm p) (ha : a'.with_.Perm a.with_) (d : (keys a.with_).Nodup) :
    adjEquals a' p' ↔ adjEquals a p := by
  unfold adjEquals
  apply forall_congr'; intro e
  rw [hp.mem_iff, lookup_perm ha d]

/-- What `accept` and `WF` say about the adjustment list, transported along `AdjRel`. -/
theorem adjustments_perm {m m' : Matrix} {p p' : List (String × String)} (hp : p'.Perm p)
    (hs : m'.setup.Perm m.setup) (ds : (keys m.setup).Nodup) {l' l : List (Option Adj)}
    (ha : List.Forall₂ AdjRel l' l) (hk : ∀ a, some a ∈ l → (keys a.with_).Nodup) :
    (∀ a, some a ∈ l' → (keys a.with_).Nodup) ∧
    ((∀ x ∈ l', ∃ a, x = some a ∧ adjWellFormed m' a) ↔
      ∀ x ∈ l, ∃ a, x = some a ∧ adjWellFormed m a) ∧
    ((∃ a, some a ∈ l' ∧ adjEquals a p') ↔ ∃ a, some a ∈ l ∧ adjEquals a p) ∧
    ((∀ a, some a ∈ l' → adjEquals a p' → shouldSkip a.skip = false) ↔
      ∀ a, some a ∈ l → adjEquals a p → shouldSkip a.skip = false) := by
  induction ha with
  | nil => simp
  | @cons x' x _ _ hab _ ih =>
    obtain ⟨i1, i2, i3, i4⟩ := ih fun a h => hk a (List.mem_cons_of_mem _ h)
    cases x' <;> cases x <;> try exact hab.elim
    · simpa only [List.mem_cons, reduceCtorEq, false_or, forall_eq_or_imp, false_and, exists_false,
        true_and] using ⟨i1, i3, i4⟩
    · obtain ⟨hw, hsk⟩ := hab
      have hd := hk _ List.mem_cons_self
      refine ⟨fun a h => ?_, ?_⟩
      · rcases List.mem_cons.1 h with e | h
        · cases e; exact (nodup_keys_perm hw).2 hd
        · exact i1 a h
      · simp only [List.mem_cons, forall_eq_or_imp, exists_eq_or_imp, Option.some.injEq,
          exists_eq_left', adjWellFormed_perm hw hs ds, adjEquals_perm hp hw hd, hsk, i2, i3, i4,
          and_self]

theorem accept_perm (m m' : Matrix) (p p' : List (String × String))
    (wf : WF (some m) p)
    (hp : p'.Perm p) (hs : m'.setup.Perm m.setup)
    (ha : List.Forall₂ AdjRel m'.adjustments m.adjustments) :
    accept (some m') p' ↔ accept (some m) p := by
  have ds := wf.setupKeys m rfl
  obtain ⟨_, h2, h3, h4⟩ := adjustments_perm hp hs ds ha (wf.adjKeys m rfl)
  simp only [accept]
  rw [namesEachDimOnce_perm hp hs ds, isCombination_perm hp hs ds, h2, h3, h4]

theorem wf_perm (m m' : Matrix) (p p' : List (String × String))
    (wf : WF (some m) p)
    (hp : p'.Perm p) (hs : m'.setup.Perm m.setup)
    (ha : List.Forall₂ AdjRel m'.adjustments m.adjustments) :
    WF (some m') p' :=
  ⟨(nodup_keys_perm hp).2 wf.pKeys,
    fun _ h => by cases h; exact (nodup_keys_perm hs).2 (wf.setupKeys m rfl),
    fun _ h => by
      cases h; exact (adjustments_perm hp hs (wf.setupKeys m rfl) ha (wf.adjKeys m rfl)).1⟩

end GoPipeline.MatrixV
