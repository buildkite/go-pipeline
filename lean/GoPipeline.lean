import GoPipeline.Props.C01
import GoPipeline.Props.C02
import GoPipeline.Props.C02Interp
import GoPipeline.Props.C02OK
import GoPipeline.Props.C02OKY
import GoPipeline.Props.C02Y
import GoPipeline.Props.C03
import GoPipeline.Props.C03Y
import GoPipeline.Props.C04
import GoPipeline.Props.C04Coll
import GoPipeline.Props.C05
import GoPipeline.Props.C06
import GoPipeline.Props.C07
import GoPipeline.Props.C07Cyc
import GoPipeline.Props.C08
import GoPipeline.Props.C08Y
import GoPipeline.Props.C09
import GoPipeline.Props.C09OK
import GoPipeline.Props.C10
import GoPipeline.Props.C11
import GoPipeline.Props.C12
import GoPipeline.Props.C13
import GoPipeline.Props.C14
import GoPipeline.Props.C15
import GoPipeline.Props.C16
import GoPipeline.Props.C17
import GoPipeline.Props.C18
import GoPipeline.Props.C19
import GoPipeline.Props.EndToEnd
